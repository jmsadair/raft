/-
  Proofs/ReplRead.lean — linearizable reads are never stale (C05), on the timed
  replication-layer model (Model/ReplRead.lean).

  The ghost history of the timed model is a list of stamped events. Each clause of `RInv` says of
  every recorded event what was true when it was written, in a form that survives later steps.
  So preservation splits into a part that is the same for all steps (`rinv_frame`: old events are
  carried along by `Ext`, `LeaderKept` and the clock) and, per step, what the one new event says.
-/
import RaftVerif.Model.ReplRead
import RaftVerif.Proofs.ReplSafety
namespace Raft
namespace Repl

structure RInv (cfg : Config) (r : RState) : Prop where
  base : Inv cfg r.s
  vote_time : ∀ T m c τ, (T, m, c, τ) ∈ r.voteAt → τ < r.now ∧ (T, m, c) ∈ r.s.votes
  vote_has_time : ∀ T m c, (T, m, c) ∈ r.s.votes → ∃ τ, (T, m, c, τ) ∈ r.voteAt
  elect_ok : ∀ T c τe, (T, c, τe) ∈ r.electAt → τe < r.now ∧ (∃ g, r.s.glog T = some (c, g)) ∧
    ∃ Q, IsQuorum cfg Q ∧ ∀ m ∈ Q, ∃ τv, τv < τe ∧ (T, m, c, τv) ∈ r.voteAt
  glog_elect : ∀ T c g, r.s.glog T = some (c, g) → ∃ τe, (T, c, τe) ∈ r.electAt
  msg_stamp : ∀ m ∈ r.s.aes, m.stamp < r.now
  hb_ok : ∀ m T st τa, (m, T, st, τa) ∈ r.hbAck → τa < r.now ∧ st < τa ∧
    ∀ T' c τv, (T', m, c, τv) ∈ r.voteAt → τv < τa → T' ≤ T
  commit_ok : ∀ e ∈ r.commitAt, e.time < r.now ∧ (∃ τe, τe ≤ e.time ∧ (e.term, e.leader, τe) ∈ r.electAt) ∧
    e.pre.length = e.index ∧ IsCommitted cfg r.s e.term e.pre ∧
    (∃ g, r.s.glog e.term = some (e.leader, g) ∧ e.pre <+: g) ∧
    ((r.s.nodes e.leader).role = .leader → (r.s.nodes e.leader).term = e.term → e.index ≤ (r.s.nodes e.leader).commit)
  read_ok : ∀ rd ∈ r.reads, rd.time < r.now ∧ (∃ g, r.s.glog rd.term = some (rd.leader, g)) ∧
    ((r.s.nodes rd.leader).role = .leader → (r.s.nodes rd.leader).term = rd.term →
      ∀ e ∈ r.commitAt, e.time < rd.time → e.term ≤ rd.term →
        e.index ≤ rd.readIndex ∧ e.pre <+: (r.s.nodes rd.leader).log)

theorem rinv_init (cfg : Config) : RInv cfg rinit :=
  { base := inv_init cfg, vote_time := nofun, vote_has_time := nofun, elect_ok := nofun, glog_elect := nofun,
    msg_stamp := nofun, hb_ok := nofun, commit_ok := nofun, read_ok := nofun }

theorem RStep.proj {cfg : Config} {r r' : RState} (h : RStep cfg r r') : Step cfg r.s r'.s ∨ r'.s = r.s := by
  cases h with
  | timeout i h => exact .inl (.timeout _ i h)
  | grant m q h1 h2 h3 h4 => exact .inl (.grant _ m q h1 h2 h3 h4)
  | becomeLeader c Q h1 h2 h3 => exact .inl (.becomeLeader _ c Q h1 h2 h3)
  | clientAppend l p h => exact .inl (.clientAppend _ l p h)
  | sendAE l prev k h1 h2 => exact .inl (.sendAE _ l prev k _ h1 h2)
  | recvAEok n m h1 h2 h3 h4 h5 => exact .inl (.recvAEok _ n m h1 h2 h3 h4 h5)
  | recvAErej n m h1 h2 h3 => exact .inl (.recvAErej _ n m h1 h2 h3)
  | advanceCommit l i Q h1 h2 h3 h4 h5 => exact .inl (.advanceCommit _ l i Q h1 h2 h3 h4 h5)
  | higherTerm n t h => exact .inl (.higherTerm _ n t h)
  | crash n => exact .inl (.crash _ n)
  | readSubmit | tick => exact .inr rfl

/-- Each clause of `RInv` says of a new event what holds when it is written: `P` is that, for one ghost list. -/
def Adds {α : Type} (l l' : List α) (P : α → Prop) : Prop := ∃ new, l' = new ++ l ∧ ∀ x ∈ new, P x

theorem Adds.none {α : Type} {l : List α} {P : α → Prop} : Adds l l P := ⟨[], rfl, nofun⟩

theorem Adds.one {α : Type} {l : List α} {P : α → Prop} {a : α} (h : P a) : Adds l (a :: l) P :=
  ⟨[a], rfl, fun _ hx => List.mem_singleton.mp hx ▸ h⟩

theorem Adds.old {α : Type} {l l' : List α} {P : α → Prop} (h : Adds l l' P) {x : α} (hx : x ∈ l) : x ∈ l' := by
  obtain ⟨new, rfl, _⟩ := h; exact List.mem_append_right _ hx

theorem Adds.cases {α : Type} {l l' : List α} {P : α → Prop} (h : Adds l l' P) {x : α} (hx : x ∈ l') : x ∈ l ∨ P x := by
  obtain ⟨new, rfl, hP⟩ := h; exact (List.mem_append.mp hx).symm.imp_right (hP x)

/-- The read index a leader takes (fix S28) covers every recorded commit of a term up to its own. Such a commit
    is in its log (`prefix_glog`). If an entry of the leader's term sits at the commit index: a commit of its own
    term is below that index, and the prefix of an earlier term ends before that entry. -/
theorem readIndex_covers {cfg : Config} (hnd : cfg.voterIds.Nodup) {r : RState} (hr : RInv cfg r) {l : Nat}
    (hl : (r.s.nodes l).role = .leader) :
    ∀ e ∈ r.commitAt, e.term ≤ (r.s.nodes l).term → e.index ≤ readIndexOf (r.s.nodes l) ∧ e.pre <+: (r.s.nodes l).log := by
  intro e he hle
  have hi := hr.base
  have hg := hi.leader_glog l hl
  obtain ⟨_, _, hlen, hcom, ⟨g, hge, _⟩, hcl⟩ := hr.commit_ok e he
  have hp := hcom.prefix_glog hnd hi hg hle
  refine ⟨?_, hp⟩
  unfold readIndexOf; split
  · next hct =>
    rcases Nat.eq_or_lt_of_le hle with hEq | hlt
    · rw [hEq, hg] at hge; cases hge
      exact hcl hl hEq.symm
    · rw [← hlen]
      apply Nat.le_of_not_lt; intro hgt
      have := termAt_le_bound (committed_terms hi hcom) (r.s.nodes l).commit
      rw [← termAt_prefix_stable hp (Nat.le_of_lt hgt), hct] at this
      exact Nat.not_le_of_lt hlt this
  · exact hlen ▸ hp.length_le

/-- The frame: how the time invariants move along one step, given what the step adds to the
    ghost history. All additions carry the current time. -/
theorem rinv_frame {cfg : Config} (hnd : cfg.voterIds.Nodup) {r r' : RState} (hr : RInv cfg r)
    (hs : Step cfg r.s r'.s ∨ r'.s = r.s) (hnow : r.now < r'.now)
    (hV : Adds r.voteAt r'.voteAt fun (T, m, c, τ) => τ = r.now ∧ (T, m, c) ∈ r'.s.votes)
    (hV2 : ∀ v ∈ r'.s.votes, v ∈ r.s.votes ∨ (v.1, v.2.1, v.2.2, r.now) ∈ r'.voteAt)
    (hE : Adds r.electAt r'.electAt fun (T, c, τe) => τe = r.now ∧ (∃ g, r'.s.glog T = some (c, g)) ∧
      ∃ Q, IsQuorum cfg Q ∧ ∀ m ∈ Q, (T, m, c) ∈ r.s.votes)
    (hE2 : ∀ T c g, r'.s.glog T = some (c, g) → (∃ g0, r.s.glog T = some (c, g0)) ∨ (T, c, r.now) ∈ r'.electAt)
    (hM : ∀ m ∈ r'.s.aes, m ∈ r.s.aes ∨ m.stamp = r.now)
    -- answers to replication requests (not in a step that casts a vote)
    (hH : Adds r.hbAck r'.hbAck fun (m, T, st, τa) => τa = r.now ∧ st < r.now ∧ (r.s.nodes m).term ≤ T ∧ r'.voteAt = r.voteAt)
    (hC : Adds r.commitAt r'.commitAt fun e => e.time = r.now ∧ (r.s.nodes e.leader).role = .leader ∧
      e.term = (r.s.nodes e.leader).term ∧ r'.s.nodes e.leader = { r.s.nodes e.leader with commit := e.index } ∧
      e.pre = (r.s.nodes e.leader).log.take e.index)
    (hR : Adds r.reads r'.reads fun rd => rd.time = r.now ∧ (r.s.nodes rd.leader).role = .leader ∧
      rd.term = (r.s.nodes rd.leader).term ∧ rd.readIndex = readIndexOf (r.s.nodes rd.leader) ∧ r'.s = r.s) :
    RInv cfg r' := by
  have hi := hr.base
  have hi' : Inv cfg r'.s := hs.elim (inv_step hnd hi) (· ▸ hi)
  have hext : Ext r.s r'.s := hs.elim (step_ext hnd hi) (fun e => e ▸ Ext.refl_of _ _ rfl rfl rfl)
  have hlead : ∀ j, LeaderKept r.s (r'.s.nodes j) (r.s.nodes j) :=
    fun j => hs.elim (step_leader hnd hi · j) (fun e => e ▸ .refl _ _)
  -- a node that leads a term that had a leader before was that leader
  have hstay : ∀ {j T c g}, (r'.s.nodes j).role = .leader → (r'.s.nodes j).term = T → r.s.glog T = some (c, g) →
      (r.s.nodes j).role = .leader ∧ (r.s.nodes j).term = T ∧ (r.s.nodes j).log <+: (r'.s.nodes j).log ∧
      (r.s.nodes j).commit ≤ (r'.s.nodes j).commit := by
    intro j T c g hl ht hg
    rcases hlead j hl with ⟨h1, h2, h3, h4⟩ | hnone
    · exact ⟨h1, h2.symm.trans ht, h3, h4⟩
    · rw [ht, hg] at hnone; cases hnone
  have past : ∀ {t}, t ≤ r.now → t < r'.now := fun h => Nat.lt_of_le_of_lt h hnow
  have hCold : ∀ {e t}, e ∈ r'.commitAt → e.time < t → t ≤ r.now → e ∈ r.commitAt := by
    intro e t he h1 h2
    rcases hC.cases he with h | h
    · exact h
    · exact absurd (h.1 ▸ h1) (Nat.not_lt_of_le h2)
  exact {
    base := hi'
    vote_time := by
      intro T m c τ h
      rcases hV.cases h with ho | ⟨h1, h2⟩
      · obtain ⟨h1, h2⟩ := hr.vote_time T m c τ ho
        exact ⟨past (Nat.le_of_lt h1), hext.votes _ h2⟩
      · exact ⟨past (Nat.le_of_eq h1), h2⟩
    vote_has_time := by
      intro T m c h
      rcases hV2 _ h with ho | hn
      · obtain ⟨τ, hτ⟩ := hr.vote_has_time T m c ho
        exact ⟨τ, hV.old hτ⟩
      · exact ⟨r.now, hn⟩
    elect_ok := by
      intro T c τe h
      rcases hE.cases h with ho | ⟨h1, h2, Q, hQ, hv⟩
      · obtain ⟨h1, ⟨g, hg⟩, Q, hQ, hv⟩ := hr.elect_ok T c τe ho
        obtain ⟨g', hg', _⟩ := hext.glog T c g hg
        refine ⟨past (Nat.le_of_lt h1), ⟨g', hg'⟩, Q, hQ, fun m hm => ?_⟩
        obtain ⟨τv, h2, h3⟩ := hv m hm
        exact ⟨τv, h2, hV.old h3⟩
      · refine ⟨past (Nat.le_of_eq h1), h2, Q, hQ, fun m hm => ?_⟩
        obtain ⟨τv, hτv⟩ := hr.vote_has_time T m c (hv m hm)
        exact ⟨τv, h1 ▸ (hr.vote_time T m c τv hτv).1, hV.old hτv⟩
    glog_elect := by
      intro T c g h
      rcases hE2 T c g h with ⟨g0, hg0⟩ | hn
      · obtain ⟨τe, hτe⟩ := hr.glog_elect T c g0 hg0
        exact ⟨τe, hE.old hτe⟩
      · exact ⟨r.now, hn⟩
    msg_stamp := by
      intro m hm
      rcases hM m hm with ho | hn
      · exact past (Nat.le_of_lt (hr.msg_stamp m ho))
      · exact past (Nat.le_of_eq hn)
    hb_ok := by
      intro m T st τa h
      rcases hH.cases h with ho | ⟨h1, h2, h3, h4⟩
      · obtain ⟨h1, h2, h3⟩ := hr.hb_ok m T st τa ho
        refine ⟨past (Nat.le_of_lt h1), h2, fun T' c τv hv hlt => ?_⟩
        rcases hV.cases hv with hvo | hvn
        · exact h3 T' c τv hvo hlt
        · exact absurd (Nat.lt_trans (hvn.1 ▸ hlt) h1) (Nat.lt_irrefl _)
      · refine ⟨past (Nat.le_of_eq h1), h1 ▸ h2, fun T' c τv hv _ => ?_⟩
        rw [h4] at hv
        exact Nat.le_trans (hi.votes_term T' m c (hr.vote_time T' m c τv hv).2) h3
    commit_ok := by
      intro e he
      rcases hC.cases he with ho | ⟨h1, hl, ht, hnode, hpre⟩
      · obtain ⟨h1, ⟨τe, hτe1, hτe2⟩, h3, h4, ⟨g, hg, hpre⟩, h6⟩ := hr.commit_ok e ho
        obtain ⟨g', hg', hpp⟩ := hext.glog _ _ g hg
        refine ⟨past (Nat.le_of_lt h1), ⟨τe, hτe1, hE.old hτe2⟩, h3, h4.mono hext (Nat.le_refl _), ⟨g', hg', hpre.trans hpp⟩, fun hl ht => ?_⟩
        obtain ⟨hl0, ht0, _, hc⟩ := hstay hl ht hg
        exact Nat.le_trans (h6 hl0 ht0) hc
      · -- the event records what the leader has committed after the step
        have hg := hi.leader_glog _ hl
        obtain ⟨τe, hτe⟩ := hr.glog_elect _ _ _ hg
        have hτlt := (hr.elect_ok _ _ τe hτe).1
        obtain ⟨g', hg', hpp⟩ := hext.glog _ _ _ hg
        have hc' := hi'.commit_ok e.leader
        rw [hnode, ← ht, ← hpre] at hc'
        exact ⟨past (Nat.le_of_eq h1), ⟨τe, h1 ▸ Nat.le_of_lt hτlt, ht ▸ hE.old hτe⟩, hpre ▸ List.length_take_of_le hc'.1, hc'.2,
          ⟨g', ht ▸ hg', (hpre ▸ List.take_prefix _ _).trans hpp⟩, fun _ _ => hnode ▸ Nat.le_refl _⟩
    read_ok := by
      intro rd hrd
      rcases hR.cases hrd with ho | ⟨h1, hl, ht, hri, hs⟩
      · obtain ⟨h1, ⟨g, hg⟩, h3⟩ := hr.read_ok rd ho
        obtain ⟨g', hg', _⟩ := hext.glog _ _ g hg
        refine ⟨past (Nat.le_of_lt h1), ⟨g', hg'⟩, fun hl ht e he hlt hle => ?_⟩
        obtain ⟨hl0, ht0, hp, _⟩ := hstay hl ht hg
        obtain ⟨h4, h5⟩ := h3 hl0 ht0 e (hCold he hlt (Nat.le_of_lt h1)) hlt hle
        exact ⟨h4, h5.trans hp⟩
      · rw [hs]
        refine ⟨past (Nat.le_of_eq h1), ⟨_, ht ▸ hi.leader_glog rd.leader hl⟩, fun _ _ e he hlt hle => ?_⟩
        exact hri ▸ readIndex_covers hnd hr hl e (hCold he hlt (Nat.le_of_eq h1)) (ht ▸ hle) }

theorem rinv_step {cfg : Config} (hnd : cfg.voterIds.Nodup) {r r' : RState} (hr : RInv cfg r) (h : RStep cfg r r') : RInv cfg r' := by
  have hi := hr.base
  -- a step that leaves the votes, the leader logs or the requests alone
  have oldG : ∀ {P : Nat → Nat → Prop} T c g, r.s.glog T = some (c, g) → (∃ g0, r.s.glog T = some (c, g0)) ∨ P T c :=
    fun _ _ g h => .inl ⟨g, h⟩
  have old : ∀ {α : Type} {l : List α} {P : α → Prop}, ∀ x ∈ l, x ∈ l ∨ P x := fun _ => .inl
  -- a step that sets the leader log of term `T0`: that of another term is an old one
  have setG : ∀ {T0 l T c : Nat} {x g : List AEntry}, (if T = T0 then some (l, x) else r.s.glog T) = some (c, g) →
      (T = T0 ∧ l = c) ∨ r.s.glog T = some (c, g) := by
    intro T0 l T c x g h
    split at h
    · next hT => cases h; exact .inl ⟨hT, rfl⟩
    · exact .inr h
  have hp := h.proj
  cases h with
  | timeout | grant =>
    exact rinv_frame hnd hr hp (Nat.lt_succ_self _) (.one ⟨rfl, .head _⟩)
      (List.forall_mem_cons.mpr ⟨.inr (.head _), old⟩) .none oldG old .none .none .none
  | becomeLeader c Q hc hQ hv =>
    exact rinv_frame hnd hr hp (Nat.lt_succ_self _) .none old (.one ⟨rfl, ⟨_, if_pos rfl⟩, Q, hQ, hv⟩)
      (fun T c' g h => (setG h).elim (fun ⟨hT, hc⟩ => .inr (hT ▸ hc ▸ .head _)) fun h => .inl ⟨g, h⟩) old .none .none .none
  | clientAppend l p hl =>
    exact rinv_frame hnd hr hp (Nat.lt_succ_self _) .none old .none
      (fun T c g h => .inl ((setG h).elim (fun ⟨hT, hc⟩ => ⟨_, hc ▸ hT ▸ hi.leader_glog l hl⟩) fun h => ⟨g, h⟩)) old .none .none .none
  | sendAE =>
    exact rinv_frame hnd hr hp (Nat.lt_succ_self _) .none old .none oldG
      (List.forall_mem_cons.mpr ⟨.inr rfl, old⟩) .none .none .none
  | recvAEok n m hm ht | recvAErej n m hm ht =>
    exact rinv_frame hnd hr hp (Nat.lt_succ_self _) .none old .none oldG old
      (.one ⟨rfl, hr.msg_stamp m hm, ht, rfl⟩) .none .none
  | advanceCommit l i Q hl hil hti hQ ha =>
    exact rinv_frame hnd hr hp (Nat.lt_succ_self _) .none old .none oldG old .none
      (.one ⟨rfl, hl, rfl, setNode_same _ _ _, rfl⟩) .none
  | higherTerm | crash => exact rinv_frame hnd hr hp (Nat.lt_succ_self _) .none old .none oldG old .none .none .none
  | readSubmit l hl =>
    exact rinv_frame hnd hr hp (Nat.lt_succ_self _) .none old .none oldG old .none .none (.one ⟨rfl, hl, rfl, rfl, rfl⟩)
  | tick d => exact rinv_frame hnd hr hp (Nat.lt_add_right d (Nat.lt_succ_self _)) .none old .none oldG old .none .none .none

theorem rinv_reachable {cfg : Config} (hnd : cfg.voterIds.Nodup) {r : RState} (h : RReachable cfg r) : RInv cfg r := by
  induction h with
  | base => exact rinv_init cfg
  | step _ hs ih => exact rinv_step hnd ih hs

inductive RReachableFrom (cfg : Config) (r : RState) : RState → Prop
  | base : RReachableFrom cfg r r
  | step {a b} : RReachableFrom cfg r a → RStep cfg a b → RReachableFrom cfg r b

theorem rreachable_trans {cfg : Config} {r r' : RState} (h : RReachable cfg r) (h' : RReachableFrom cfg r r') : RReachable cfg r' := by
  induction h' with
  | base => exact h
  | step _ hst ih => exact .step ih hst

theorem rstep_mono {cfg : Config} {r r' : RState} (h : RStep cfg r r') :
    r.now ≤ r'.now ∧ ∀ e ∈ r.commitAt, e ∈ r'.commitAt := by
  cases h with
  | advanceCommit => exact ⟨Nat.le_succ _, fun _ he => .tail _ he⟩
  | tick d => exact ⟨Nat.le_trans (Nat.le_succ _) (Nat.le_add_right _ d), fun _ he => he⟩
  | _ => exact ⟨Nat.le_succ _, fun _ he => he⟩

theorem rfrom_mono {cfg : Config} {r r' : RState} (h : RReachableFrom cfg r r') :
    r.now ≤ r'.now ∧ ∀ e ∈ r.commitAt, e ∈ r'.commitAt := by
  induction h with
  | base => exact ⟨Nat.le_refl _, fun e he => he⟩
  | step _ hst ih =>
    obtain ⟨h1, h2⟩ := rstep_mono hst
    exact ⟨Nat.le_trans ih.1 h1, fun e he => h2 e (ih.2 e he)⟩

/-- The classical step, once for reads and leases: a quorum has answered requests of term `T`
    (its leader `ldr` counts itself), and a leader of a later term `T'` was elected at `τe`.
    The two quorums share a node; it is not `ldr`; it voted for `T'` before `τe` and, since it
    still answered for `T`, not before that answer. `P` carries what each use knows about the answers
    it counts (the stamp is at or after the read's registration; the stamp is the lease's round). -/
theorem later_election_after_answer {cfg : Config} (hnd : cfg.voterIds.Nodup) {r : RState} (hr : RInv cfg r)
    {T T' c τe ldr : Nat} {Q : List Nat} {P : Nat → Nat → Prop}
    (hel : (T', c, τe) ∈ r.electAt) (hlt : T < T') (hT : (r.s.nodes ldr).term ≤ T) (hQ : IsQuorum cfg Q)
    (hacks : ∀ m ∈ Q, m = ldr ∨ ∃ st τa, P st τa ∧ (m, T, st, τa) ∈ r.hbAck) :
    ∃ m st τa τv, (m, T, st, τa) ∈ r.hbAck ∧ P st τa ∧ (T', m, c, τv) ∈ r.voteAt ∧ st < τa ∧ τa ≤ τv ∧ τv < τe := by
  obtain ⟨_, _, Q', hQ', hv'⟩ := hr.elect_ok T' c τe hel
  obtain ⟨m, hm1, hm2⟩ := quorum_meet hnd hQ hQ'
  obtain ⟨τv, hτv1, hτv2⟩ := hv' m hm2
  rcases hacks m hm1 with rfl | ⟨st, τa, hP, hack⟩
  · exact absurd (Nat.le_trans (hr.base.votes_term T' _ c (hr.vote_time _ _ _ _ hτv2).2) hT) (Nat.not_le_of_lt hlt)
  · obtain ⟨_, hst, hall⟩ := hr.hb_ok m T st τa hack
    exact ⟨m, st, τa, τv, hack, hP, hτv2, hst, Nat.le_of_not_lt fun h => Nat.not_le_of_lt hlt (hall T' c τv hτv2 h), hτv1⟩

/-- What both kinds of read rest on: a registered read whose leader still leads its term, answered
    at or beyond its read index, contains every earlier commit — provided none of those was made
    in a later term. (Excluding that is where a quorum of answers, or a lease, comes in.) -/
theorem read_fresh {cfg : Config} {r : RState} (hr : RInv cfg r) {rd : Read} {a : Nat} (hrd : rd ∈ r.reads)
    (hl : (r.s.nodes rd.leader).role = .leader) (ht : (r.s.nodes rd.leader).term = rd.term) (hria : rd.readIndex ≤ a)
    (hno : ∀ e ∈ r.commitAt, e.time < rd.time → e.term ≤ rd.term) :
    ∀ e ∈ r.commitAt, e.time < rd.time → e.index ≤ a ∧ e.pre <+: (r.s.nodes rd.leader).log.take a := by
  intro e he hlt
  obtain ⟨h4, h5⟩ := (hr.read_ok rd hrd).2.2 hl ht e he hlt (hno e he hlt)
  have hia : e.index ≤ a := Nat.le_trans h4 hria
  exact ⟨hia, List.prefix_take_iff.mpr ⟨h5, (hr.commit_ok e he).2.2.1 ▸ hia⟩⟩

/-- **Linearizable reads are never stale** (`C05_linearizable_read`). No timing assumption. -/
theorem linearizable_read {cfg : Config} (hnd : cfg.voterIds.Nodup) {r : RState} (hreach : RReachable cfg r)
    (rd : Read) (a : Nat) (Q : List Nat) (hs : CanServe cfg r rd a Q) :
    ∀ e ∈ r.commitAt, e.time < rd.time → e.index ≤ a ∧ e.pre <+: (r.s.nodes rd.leader).log.take a := by
  have hr := rinv_reachable hnd hreach
  obtain ⟨hrd, hl, ht, _, hria, _, hQ, hacks⟩ := hs
  refine read_fresh hr hrd hl ht hria fun e he hlt => Nat.le_of_not_lt fun hgt => ?_
  -- a leader of a later term committed before the read was registered: it was elected before
  -- a request built after the registration was answered
  obtain ⟨_, ⟨τe, hτe1, hτe2⟩, _⟩ := hr.commit_ok e he
  obtain ⟨m, st, τa, τv, _, hst, _, h1, h2, h3⟩ := later_election_after_answer hnd hr (P := fun st _ => rd.time ≤ st)
    hτe2 hgt (Nat.le_of_eq ht) hQ hacks
  exact Nat.lt_irrefl rd.time (calc
    rd.time ≤ st := hst
    _ < τa := h1
    _ ≤ τv := h2
    _ < τe := h3
    _ ≤ e.time := hτe1
    _ < rd.time := hlt)

end Repl
end Raft
