/-
  Properties/C12.lean — the file-backed log recovers from a crash at any point.

  Model: log.bin is a byte string; the log's invariant is `file = frames entries`
  (complete records) with every stored offset equal to the record's
  position. A crash inside an append leaves `frames entries ++ p` for an arbitrary byte
  prefix `p` of the records being appended (the code writes them sequentially at the end
  of the file; E2 checks that against the syscalls the real code performs). Truncate is
  one `ftruncate`, compact/discard replace the file by rename: a crash exposes the old or
  the new file, both of the invariant's form. Statements are about the real record codec
  (`encodeLogBody`/`decodeLogBody`, tied byte-exactly to protobuf-go by E1).
-/
import RaftVerif.Proofs.LogFile
import RaftVerif.Properties.C19
namespace Raft.LogFile
open Raft.Bytes Raft.Codec

/-- Entries the code can store: 64-bit fields, a body that fits the model's 32-bit length prefix
    (the code writes an int32, which halves the bound). -/
def EntryOK (e : SEntry) : Prop :=
  (U64 e.index ∧ U64 e.term ∧ U64 e.offset ∧ U64 e.data.length ∧ U64 e.kind) ∧ (encodeLogBody e).length < 2 ^ 32

def logCodec : BodyCodec SEntry where
  enc := encodeLogBody
  dec := decodeLogBody
  ok := EntryOK
  dec_enc := fun e h => C19_log_record_roundtrip e h.1.1 h.1.2.1 h.1.2.2.1 h.1.2.2.2.1 h.1.2.2.2.2
  small := fun _ h => h.2

abbrev fileOf (es : List SEntry) : Bytes := frames logCodec es

/-- **C12, crash inside an append.** Whatever byte prefix of the in-flight append reached
    the disk, reopening succeeds and yields every entry of the operations that had
    returned (`old`) followed by a prefix of the in-flight entries, intact; and the
    truncation point `Replay` computes cuts the file back to exactly those records. -/
theorem C12_recover_torn_append (old es : List SEntry) (hold : ∀ e ∈ old, EntryOK e) (hes : ∀ e ∈ es, EntryOK e)
    (p : Bytes) (hp : p <+: fileOf es) :
    ∃ j, j ≤ es.length ∧
      replay decodeLogBody (fileOf old ++ p) = .ok (old ++ es.take j) (fileOf (old ++ es.take j)).length ∧
      repaired (fileOf old ++ p) (fileOf (old ++ es.take j)).length = fileOf (old ++ es.take j) :=
  replay_torn_append logCodec old es hold hes p hp

/-- A file of complete records is read back exactly (clean reopen, and reopen after a
    crash that exposed the old or the new file of truncate/compact/discard). -/
theorem C12_recover_complete (es : List SEntry) (h : ∀ e ∈ es, EntryOK e) :
    replay decodeLogBody (fileOf es) = .ok es (fileOf es).length :=
  replay_frames logCodec es h

/-- **C12, keeps working.** After recovery the file is again a sequence of complete
    records of the recovered entries, so both theorems above apply to every further
    operation and crash: the guarantee is preserved over any number of reopen cycles. -/
theorem C12_continues (old es : List SEntry) (hold : ∀ e ∈ old, EntryOK e) (hes : ∀ e ∈ es, EntryOK e)
    (p : Bytes) (hp : p <+: fileOf es) :
    ∃ rec good, replay decodeLogBody (fileOf old ++ p) = .ok rec good ∧
      repaired (fileOf old ++ p) good = fileOf rec ∧ (∀ e ∈ rec, EntryOK e) ∧
      replay decodeLogBody (repaired (fileOf old ++ p) good) = .ok rec (fileOf rec).length := by
  obtain ⟨j, _, h1, h2⟩ := C12_recover_torn_append old es hold hes p hp
  have hall := forall_mem_append_take hold hes j
  exact ⟨_, _, h1, h2, hall, by rw [h2]; exact C12_recover_complete _ hall⟩

def OffsetsOK (es : List SEntry) : Prop :=
  ∀ k (h : k < es.length), (es[k]'h).offset = (fileOf (es.take k)).length

/-- `Truncate` cuts the file at the stored offset of the first removed entry: with
    correct offsets that leaves exactly the records of the kept entries. -/
theorem C12_truncate_exact (es : List SEntry) (ho : OffsetsOK es) (k : Nat) (hk : k < es.length) :
    (fileOf es).take (es[k]'hk).offset = fileOf (es.take k) := by
  have h : fileOf es = fileOf (es.take k) ++ fileOf (es.drop k) := by rw [← frames_append, List.take_append_drop]
  rw [ho k hk, h, List.take_left]

/-- `AppendEntries` stores the current end of file as the entry's offset: offsets stay correct. -/
theorem C12_append_offsets (es : List SEntry) (ho : OffsetsOK es) (e : SEntry) :
    OffsetsOK (es ++ [{ e with offset := (fileOf es).length }]) := by
  intro k hk
  by_cases hlt : k < es.length
  · rw [List.getElem_append_left hlt, List.take_append_of_le_length (Nat.le_of_lt hlt)]
    exact ho k hlt
  · obtain rfl : k = es.length := by simp at hk; omega
    simp

/-- What the loop wrote is exactly the records of the entries it keeps in memory. -/
theorem writeSeq_file (file : Bytes) (es : List SEntry) :
    (writeSeq file es).1 = file ++ fileOf (writeSeq file es).2 := by
  induction es generalizing file with
  | nil => simp [writeSeq]
  | cons e es ih => simp [writeSeq, ih, fileOf, frames_cons, logCodec]

/-- **C12, batch append.** Appending any batch to a file of complete records with correct
    offsets leaves a file of complete records with correct offsets — although the offset
    is itself part of the record and so changes the record's length. -/
theorem C12_append_batch (old es : List SEntry) (ho : OffsetsOK old) :
    (writeSeq (fileOf old) es).1 = fileOf (old ++ (writeSeq (fileOf old) es).2) ∧
      OffsetsOK (old ++ (writeSeq (fileOf old) es).2) := by
  induction es generalizing old with
  | nil => simpa [writeSeq] using ho
  | cons e es ih =>
    -- one step of the loop is `C12_append_offsets`; the file it leaves is that of `old` with the new entry
    simpa [writeSeq, fileOf, frames_append, logCodec] using ih _ (C12_append_offsets old ho e)

/-- **C12, compaction.** `Compact(index)` rewrites the kept suffix into a fresh file with
    the same loop, starting from the empty file: the new file consists of complete records
    of exactly the kept entries (only offsets differ), and every stored offset is again the
    record's position — so a later `Truncate` on the compacted log cuts at a record boundary
    (`C12_truncate_exact`), and a crash after the rename reopens to exactly these entries
    (`C12_recover_complete`). -/
theorem C12_compact_rewrites_exactly (es : List SEntry) (k : Nat) :
    let r := writeSeq [] (es.drop k)
    r.1 = fileOf r.2 ∧ OffsetsOK r.2 ∧ r.2.length = es.length - k ∧
      r.2.map (fun e => { e with offset := 0 }) = (es.drop k).map (fun e => { e with offset := 0 }) := by
  have h := C12_append_batch [] (es.drop k) (by intro k hk; simp at hk)
  simp only [fileOf, frames_nil, List.nil_append] at h
  refine ⟨h.1, h.2, ?_, writeSeq_same _ _⟩
  rw [writeSeq_length, List.length_drop]

/-- Truncating a compacted log at any of its entries leaves complete records of the
    entries in front of it. -/
theorem C12_truncate_after_compact (es : List SEntry) (k j : Nat)
    (hj : j < (writeSeq [] (es.drop k)).2.length) :
    (writeSeq [] (es.drop k)).1.take ((writeSeq [] (es.drop k)).2[j]'hj).offset =
      fileOf ((writeSeq [] (es.drop k)).2.take j) := by
  obtain ⟨hfile, hoff, -⟩ := C12_compact_rewrites_exactly es k
  rw [hfile]
  exact C12_truncate_exact _ hoff j hj

/-- **C12, crash during compaction.** `Compact` writes the temporary file and renames it over
    `log.bin`; a crash exposes either the old file or the new one (E2 checks that against the
    syscalls). Reopening reads, in the first case, all entries; in the second, exactly the
    entries the rewrite kept (whose fields other than the offset are those of `es.drop k`,
    `C12_compact_rewrites_exactly`). The bound on the rewritten entries is stated on the
    output because an offset is part of its record; it holds whenever the file is below 2^32 bytes. -/
theorem C12_crash_during_compact_old_or_new (es : List SEntry) (k : Nat) (hes : ∀ e ∈ es, EntryOK e)
    (hnew : ∀ e ∈ (writeSeq [] (es.drop k)).2, EntryOK e) (image : Bytes)
    (himg : image = fileOf es ∨ image = (writeSeq [] (es.drop k)).1) :
    replay decodeLogBody image = .ok es (fileOf es).length ∨
      replay decodeLogBody image = .ok (writeSeq [] (es.drop k)).2 (fileOf (writeSeq [] (es.drop k)).2).length := by
  rcases himg with rfl | rfl
  · exact .inl (C12_recover_complete es hes)
  · rw [(C12_compact_rewrites_exactly es k).1]
    exact .inr (C12_recover_complete _ hnew)

/-- `DiscardEntries(index, term)` replaces the file by one placeholder record, whose offset field
    is 0. Only this is stated: the one-entry log that results has correct offsets (so the theorems
    above apply to it); the replacement of the file itself is a rename, not modelled here. -/
theorem C12_discard_exact (index term : Nat) :
    OffsetsOK [{ index := index, term := term : SEntry }] := by
  intro k hk
  obtain rfl : k = 0 := by simpa using hk
  simp [fileOf]

/-! Non-vacuity: the placeholder plus one entry; the append of a second entry is cut
    after the 4-byte header and 3 body bytes; recovery returns the first two records. -/
def exE1 : SEntry := { index := 1, term := 1, offset := 4, data := [104, 105], kind := 1 }
def exE2 : SEntry := { index := 2, term := 1, offset := 20, data := [1, 2, 3, 4, 5], kind := 1 }
example : EntryOK exE1 ∧ EntryOK exE2 ∧ (fileOf [exE2]).take 7 <+: fileOf [exE2] :=
  ⟨by unfold EntryOK U64; decide, by unfold EntryOK U64; decide, List.take_prefix _ _⟩
example : replay decodeLogBody (fileOf [{ index := 0, term := 0 }, exE1] ++ (fileOf [exE2]).take 7) =
    .ok [{ index := 0, term := 0 }, exE1] 20 := by decide +kernel
/-- Compaction of [placeholder, e1, e2] at position 1: e1 moves to offset 0, e2 to 14. -/
example : (writeSeq [] ([{ index := 0, term := 0 }, exE1, exE2].drop 1)).2.map (·.offset) = [0, 14] := by decide
/-- the output hypothesis of `C12_crash_during_compact_old_or_new` is met by that example -/
example : ∀ e ∈ (writeSeq [] ([{ index := 0, term := 0 }, exE1, exE2].drop 1)).2, EntryOK e := by
  unfold EntryOK U64; decide

end Raft.LogFile
