/-
  Properties/C19.lean — encodings are lossless (byte level).

  For every record the code stores or sends, decoding the encoding returns the record,
  for all field values below 2^64 (the code's integer width) and byte strings shorter than
  2^64 bytes: varints, the length-prefixed records of log.bin/state.bin, the six RPC
  messages, Configuration, the snapshot metadata file. Where a byte string travels inside an
  embedded message, whose own length must fit a 64-bit varint, the bound is lower: 2^63 for the
  payload of an entry in an AppendEntries request (`WEntry.Valid`), 2^62 for the ids and
  addresses of a Configuration (`WCfg.Valid`); and the 4-byte length prefix of a record of
  log.bin/state.bin is read back for bodies below 2^32 bytes (`C19_frame_roundtrip`). Empty and
  absent byte strings are the same value here, as in proto3 (the
  property's "equal" is byte-sequence equality). Entry type 2 (configuration) is a plain
  varint on the wire (open enum), so it survives although the proto enum lacks it.
  The tie to protobuf-go is E1: byte-exact agreement of `encode*` with proto.Marshal and of
  `decode*` with proto.Unmarshal on generated values and on every truncation of them.
-/
import RaftVerif.Proofs.CodecCfg
import RaftVerif.Proofs.Meta
import RaftVerif.Generated.Tables
namespace Raft.Codec
open Raft.Bytes

def U64 (n : Nat) : Prop := n < 2 ^ 64

theorem C19_varint_roundtrip (n : Nat) (rest : Bytes) (h : U64 n) :
    decodeVarint (encodeVarint n ++ rest) = some (n, rest) := decodeVarint_encode n rest h

/-- Log records (log.bin), including the stored offset and all three entry types. -/
theorem C19_log_record_roundtrip (e : SEntry) (h1 : U64 e.index) (h2 : U64 e.term) (h3 : U64 e.offset)
    (h4 : U64 e.data.length) (h5 : U64 e.kind) : decodeLogBody (encodeLogBody e) = some e := by
  have hv : ∀ f ∈ logFields e, f.Valid := by
    simp only [logFields, List.forall_mem_append, and_assoc]
    exact ⟨optV_valid 1 _ h1, optV_valid 2 _ h2, optV_valid 3 _ h3, optB_valid 4 _ h4, optV_valid 5 _ h5⟩
  rw [decodeLogBody, encodeLogBody, parseMessage_encode _ hv]
  cases e; simp [logFields, getVarint_eq, getBytes_eq]

/-! Non-vacuity: a configuration entry with maximal index survives. -/
example : decodeLogBody (encodeLogBody { index := 2 ^ 64 - 1, term := 7, offset := 4, data := [1, 2, 255], kind := 2 }) =
    some { index := 2 ^ 64 - 1, term := 7, offset := 4, data := [1, 2, 255], kind := 2 } :=
  C19_log_record_roundtrip _ (by unfold U64; decide) (by unfold U64; decide) (by unfold U64; decide)
    (by unfold U64; decide) (by unfold U64; decide)

/-- Term/vote records (state.bin). -/
theorem C19_state_record_roundtrip (s : SState) (h1 : U64 s.term) (h2 : U64 s.votedFor.length) :
    decodeStateBody (encodeStateBody s) = some s := by
  have hv : ∀ f ∈ stateFields s, f.Valid := by
    simp only [stateFields, List.forall_mem_append]
    exact ⟨optV_valid 1 _ h1, optB_valid 2 _ h2⟩
  rw [decodeStateBody, encodeStateBody, parseMessage_encode _ hv]
  cases s; simp [stateFields, getVarint_eq, getBytes_eq]

/-- The length prefix of a record is read back exactly and delimits the body. -/
theorem C19_frame_roundtrip (body rest : Bytes) (h : body.length < 2 ^ 32) :
    readBe32 (frame body ++ rest) = some (body.length, body ++ rest) := by
  rw [frame, List.append_assoc, readBe32_be32 _ _ h]

theorem C19_ae_response_roundtrip (r : WAEResp) (h1 : U64 r.term) (h2 : U64 r.index) :
    decodeAEResp (encodeFields (aeRespFields r)) = some r := by
  have hv : ∀ f ∈ aeRespFields r, f.Valid := by
    simp only [aeRespFields, List.forall_mem_append, and_assoc]
    exact ⟨optV_valid 1 _ h1, optV_valid 2 _ h2, optV_valid 3 _ (flag_lt _)⟩
  rw [decodeAEResp, parseMessage_encode _ hv]
  cases r; simp [aeRespFields, getVarint_eq]

theorem C19_vote_request_roundtrip (q : WRVReq) (h0 : U64 q.candidate.length) (h1 : U64 q.term)
    (h2 : U64 q.lastIndex) (h3 : U64 q.lastTerm) : decodeRVReq (encodeFields (rvReqFields q)) = some q := by
  have hv : ∀ f ∈ rvReqFields q, f.Valid := by
    simp only [rvReqFields, List.forall_mem_append, and_assoc]
    exact ⟨optB_valid 1 _ h0, optV_valid 2 _ h1, optV_valid 3 _ h2, optV_valid 4 _ h3, optV_valid 5 _ (flag_lt _)⟩
  rw [decodeRVReq, parseMessage_encode _ hv]
  cases q; simp [rvReqFields, getVarint_eq, getBytes_eq]

theorem C19_vote_response_roundtrip (r : WRVResp) (h1 : U64 r.term) :
    decodeRVResp (encodeFields (rvRespFields r)) = some r := by
  have hv : ∀ f ∈ rvRespFields r, f.Valid := by
    simp only [rvRespFields, List.forall_mem_append]
    exact ⟨optV_valid 1 _ h1, optV_valid 2 _ (flag_lt _)⟩
  rw [decodeRVResp, parseMessage_encode _ hv]
  cases r; simp [rvRespFields, getVarint_eq]

theorem C19_snapshot_request_roundtrip (q : WISReq) (h1 : U64 q.term) (h2 : U64 q.leader.length)
    (h3 : U64 q.lastIndex) (h4 : U64 q.lastTerm) (h5 : U64 q.configuration.length) (h6 : U64 q.offset)
    (h7 : U64 q.data.length) : decodeISReq (encodeFields (isReqFields q)) = some q := by
  have hv : ∀ f ∈ isReqFields q, f.Valid := by
    simp only [isReqFields, List.forall_mem_append, and_assoc]
    exact ⟨optV_valid 1 _ h1, optB_valid 2 _ h2, optV_valid 3 _ h3, optV_valid 4 _ h4, optB_valid 5 _ h5,
      optV_valid 6 _ h6, optB_valid 7 _ h7, optV_valid 8 _ (flag_lt _)⟩
  rw [decodeISReq, parseMessage_encode _ hv]
  cases q; simp [isReqFields, getVarint_eq, getBytes_eq]

theorem C19_snapshot_response_roundtrip (r : WISResp) (h1 : U64 r.term) (h2 : U64 r.bytesWritten) :
    decodeISResp (encodeFields (isRespFields r)) = some r := by
  have hv : ∀ f ∈ isRespFields r, f.Valid := by
    simp only [isRespFields, List.forall_mem_append]
    exact ⟨optV_valid 1 _ h1, optV_valid 2 _ h2⟩
  rw [decodeISResp, parseMessage_encode _ hv]
  cases r; simp [isRespFields, getVarint_eq]

/-- AppendEntries requests: any number of entries (the repeated embedded message), any payload
    below 2^63 bytes, every entry type. -/
theorem C19_append_request_roundtrip (q : WAEReq) (h : q.Valid) :
    decodeAEReq (encodeFields (aeReqFields q)) = some q := by
  obtain ⟨h0, h1, h2, h3, h4, hes⟩ := h
  have hv : ∀ f ∈ aeReqFields q, f.Valid := by
    simp only [aeReqFields, List.forall_mem_append, and_assoc, List.forall_mem_map]
    refine ⟨optB_valid 1 _ h0, optV_valid 2 _ h1, optV_valid 3 _ h2, optV_valid 4 _ h3, optV_valid 5 _ h4, fun e he => ?_⟩
    have := wentry_length e
    have := (hes e he).2.2.2
    exact ⟨by decide, by omega⟩
  have hf (e : WEntry) : Field.bytes 6 (encodeFields (wentryFields e)) = .bytes 6 _ := rfl
  rw [decodeAEReq, parseMessage_encode _ hv]
  cases q
  simp [aeReqFields, getVarint_eq, getBytes_eq, getRepeated_append, getRepeated_map hf, vStep_map hf, bStep_map_ne hf,
    mapM_map_decode _ fun e he => wentry_roundtrip e (hes e he)]

/-- Configurations (two proto maps and an index): the entries come back exactly as sent, in
    whatever order the sender's map iteration put them on the wire … -/
theorem C19_configuration_roundtrip (c : WCfg) (h : c.Valid) :
    decodeCfg (encodeFields (cfgFields c)) = some c := by
  obtain ⟨hi, hm, hvv⟩ := h
  have hv : ∀ f ∈ cfgFields c, f.Valid := by
    simp only [cfgFields, List.forall_mem_append, and_assoc, List.forall_mem_map]
    refine ⟨fun kv hkv => ?_, fun kv hkv => ?_, optV_valid 3 _ hi⟩
    · have := hm kv hkv
      have := bytesField_length 1 kv.1
      have := bytesField_length 2 kv.2
      exact ⟨by decide, by rw [encodeFields_cons, encodeFields_single, List.length_append]; omega⟩
    · have := hvv kv hkv
      have := bytesField_length 1 kv.1
      have := varintField_length 2 (if kv.2 then 1 else 0)
      exact ⟨by decide, by rw [encodeFields_cons, encodeFields_single, List.length_append]; omega⟩
  rw [decodeCfg, parseMessage_encode _ hv]
  cases c
  simp [cfgFields, getVarint_eq, getRepeated_append, getRepeated_map memberField.eq_def, getRepeated_map voterField.eq_def,
    vStep_map memberField.eq_def, vStep_map voterField.eq_def,
    mapM_map_decode _ fun kv hkv => member_roundtrip kv (hm kv hkv), mapM_map_decode _ fun kv hkv => voter_roundtrip kv (hvv kv hkv)]

/-- … hence the decoded maps hold, for every member, exactly its address and its voter flag
    (a Go map has distinct keys). -/
theorem C19_configuration_maps (c : WCfg) (h : c.Valid) (hm : (c.members.map (·.1)).Nodup) (hv : (c.voters.map (·.1)).Nodup) :
    ∃ d, decodeCfg (encodeFields (cfgFields c)) = some d ∧ d.index = c.index ∧
      (∀ kv ∈ c.members, lookupLast d.members kv.1 = some kv.2) ∧
      (∀ kv ∈ c.voters, lookupLast d.voters kv.1 = some kv.2) :=
  ⟨c, C19_configuration_roundtrip c h, rfl, fun kv hkv => lookupLast_of_nodup _ hm kv hkv, fun kv hkv => lookupLast_of_nodup _ hv kv hkv⟩

/-! Non-vacuity: a request with an empty entry, a configuration entry and a payload; a
    configuration with a non-voter and an empty address. -/
def exAE : WAEReq :=
  { leaderId := [49], term := 3, leaderCommit := 0, prevIndex := 2 ^ 64 - 1, prevTerm := 2
    entries := [{ index := 0, term := 0 }, { index := 5, term := 3, kind := 2, data := [0, 255] }] }

example : decodeAEReq (encodeFields (aeReqFields exAE)) = some exAE :=
  C19_append_request_roundtrip _ (by unfold WAEReq.Valid WEntry.Valid; decide)

def exCfg : WCfg := { index := 9, members := [([50], []), ([49], [97, 58, 49])], voters := [([49], true), ([50], false)] }

example : decodeCfg (encodeFields (cfgFields exCfg)) = some exCfg :=
  C19_configuration_roundtrip _ (by unfold WCfg.Valid; decide)

/-- The snapshot metadata file (`metadata.json`: decimal numbers, base64 configuration, `null` for
    a nil slice): what is written is what is read. -/
theorem C19_snapshot_metadata_roundtrip (m : Meta.SnapMeta) (h : m.Valid) :
    Meta.decodeMeta (Meta.encodeMeta m) = some m := Meta.decodeMeta_encodeMeta m h

example : Meta.decodeMeta (Meta.encodeMeta ⟨2 ^ 64 - 1, 0, some [0, 255, 16]⟩) = some ⟨2 ^ 64 - 1, 0, some [0, 255, 16]⟩ := by
  refine C19_snapshot_metadata_roundtrip _ ⟨by decide, by decide, fun c hc => ?_⟩
  obtain rfl := Option.some.inj hc
  decide

/-! ### The wire table of the source is the model's (regenerated on every run)

  `Raft.Gen.pbFields` is read by the extractor from the struct tags of the generated protobuf code
  (`internal/protobuf/raft.pb.go`): message, Go field, wire kind, field number, repeated. The
  model's table is not written down a second time: it is what the model's own field functions
  (`logFields`, `aeReqFields`, … — the functions the round-trip theorems are about) emit for a
  message with every field set, reduced to (wire kind, field number). The two must be the same
  list, message by message, in field-number order. A renumbered, retyped, added or removed field
  in the source breaks this before any byte is compared. -/

def Field.sig : Field → String × Nat
  | .varint n _ => ("varint", n)
  | .bytes n _ => ("bytes", n)

/-- what the model emits for a message with every field set -/
def modelWireTable : List (String × List (String × Nat)) :=
  [ ("LogEntry", (logFields { index := 1, term := 1, offset := 1, data := [1], kind := 1 }).map Field.sig),
    ("AppendEntriesRequest", (aeReqFields { leaderId := [1], term := 1, leaderCommit := 1, prevIndex := 1, prevTerm := 1,
                                            entries := [{ index := 1, term := 1, data := [1], kind := 1 }] }).map Field.sig),
    ("AppendEntriesResponse", (aeRespFields { term := 1, index := 1, success := true }).map Field.sig),
    ("RequestVoteRequest", (rvReqFields { candidate := [1], term := 1, lastIndex := 1, lastTerm := 1, prevote := true }).map Field.sig),
    ("RequestVoteResponse", (rvRespFields { term := 1, granted := true }).map Field.sig),
    ("InstallSnapshotRequest", (isReqFields { term := 1, leader := [1], lastIndex := 1, lastTerm := 1, configuration := [1],
                                              offset := 1, data := [1], isDone := true }).map Field.sig),
    ("InstallSnapshotResponse", (isRespFields { term := 1, bytesWritten := 1 }).map Field.sig),
    ("StorageState", (stateFields { term := 1, votedFor := [1] }).map Field.sig),
    ("Configuration", (cfgFields { members := [([1], [1])], voters := [([1], true)], index := 1 }).map Field.sig) ]

/-- what the source declares, per message, in declaration order -/
def sourceWireTable (msg : String) : List (String × Nat) :=
  (Raft.Gen.pbFields.filter (fun r => r.1 == msg)).map (fun r => (r.2.2.1, r.2.2.2.1))

theorem C19_wire_table_of_the_source_is_the_models :
    (∀ m ∈ modelWireTable, sourceWireTable m.1 = m.2) ∧
    (∀ r ∈ Raft.Gen.pbFields, (modelWireTable.map (·.1)).contains r.1 = true) := by decide +kernel

/-- the wire form of a log entry (`wentryFields`) uses the storage entry's numbers, without the offset -/
example : (wentryFields { index := 1, term := 1, data := [1], kind := 1 }).map Field.sig =
    ((logFields { index := 1, term := 1, offset := 1, data := [1], kind := 1 }).map Field.sig).filter (fun x => x.2 != 3) := by decide

end Raft.Codec
