/-
  Proofs/ReplExample.lean — non-vacuity of the replication-layer theorems: a concrete run of a
  three-voter cluster (election of node 1, a client operation, replication to node 2, commit)
  is reachable, and in its last state the leader has committed two entries.
-/
import RaftVerif.Proofs.ReplSafety
namespace Raft
namespace Repl

def cfg3 : Config := ⟨1, [(1, true), (2, true), (3, true)]⟩

theorem cfg3_nodup : cfg3.voterIds.Nodup := by decide
theorem quorum12 : IsQuorum cfg3 [1, 2] := ⟨by decide, by decide, by decide⟩

def q1 : RVMsg := ⟨1, 1, 0, 0⟩
def msg1 : AEMsg := ⟨1, 0, 0, [⟨1, 0⟩, ⟨1, 42⟩], 0, 0⟩

def s1 : AState := { init with
  nodes := setNode init 1 { init.nodes 1 with term := (init.nodes 1).term + 1, role := .candidate },
  votes := ((init.nodes 1).term + 1, 1, 1) :: init.votes,
  rvs := ⟨(init.nodes 1).term + 1, 1, (init.nodes 1).log.length, lastTerm (init.nodes 1).log⟩ :: init.rvs }

theorem step1 : Step cfg3 init s1 := Step.timeout init 1 (by decide)

def s2 : AState := { s1 with
  nodes := setNode s1 2 { s1.nodes 2 with term := q1.term, role := if (s1.nodes 2).term < q1.term then .follower else (s1.nodes 2).role },
  votes := (q1.term, 2, q1.cand) :: s1.votes }

theorem step2 : Step cfg3 s1 s2 :=
  Step.grant s1 2 q1 (by decide) (by decide)
    (by intro c h; simp [s1, init, q1] at h)
    (by right; decide)

def s3 : AState := { s2 with
  nodes := setNode s2 1 { s2.nodes 1 with role := .leader, log := (s2.nodes 1).log ++ [⟨(s2.nodes 1).term, 0⟩] },
  glog := fun t => if t = (s2.nodes 1).term then some (1, (s2.nodes 1).log ++ [⟨(s2.nodes 1).term, 0⟩]) else s2.glog t,
  acked := (1, (s2.nodes 1).log.length + 1, (s2.nodes 1).term) :: s2.acked }

theorem step3 : Step cfg3 s2 s3 :=
  Step.becomeLeader s2 1 [1, 2] (by decide) quorum12 (by decide)

def s4 : AState := { s3 with
  nodes := setNode s3 1 { s3.nodes 1 with log := (s3.nodes 1).log ++ [⟨(s3.nodes 1).term, 42⟩] },
  glog := fun t => if t = (s3.nodes 1).term then some (1, (s3.nodes 1).log ++ [⟨(s3.nodes 1).term, 42⟩]) else s3.glog t,
  acked := (1, (s3.nodes 1).log.length + 1, (s3.nodes 1).term) :: s3.acked }

theorem step4 : Step cfg3 s3 s4 := Step.clientAppend s3 1 42 (by decide)

def s5 : AState := { s4 with
  aes := ⟨(s4.nodes 1).term, 0, termAt (s4.nodes 1).log 0, ((s4.nodes 1).log.drop 0).take 2, (s4.nodes 1).commit, 0⟩ :: s4.aes }

theorem step5 : Step cfg3 s4 s5 := Step.sendAE s4 1 0 2 0 (by decide) (by decide)

def s6 : AState := { s5 with
  nodes := setNode s5 2 { term := msg1.term, role := .follower,
                          log := merge (s5.nodes 2).log msg1.prev msg1.entries,
                          commit := max (s5.nodes 2).commit (min msg1.commit (msg1.prev + msg1.entries.length)) },
  acked := (2, msg1.prev + msg1.entries.length, msg1.term) :: s5.acked }

theorem step6 : Step cfg3 s5 s6 :=
  Step.recvAEok s5 2 msg1 (by decide) (by decide) (Or.inl (by decide)) (by decide) (by decide)

def s7 : AState := { s6 with
  nodes := setNode s6 1 { s6.nodes 1 with commit := max (s6.nodes 1).commit 2 } }

theorem step7 : Step cfg3 s6 s7 :=
  Step.advanceCommit s6 1 2 [1, 2] (by decide) (by decide) (by decide) quorum12
    (by intro m hm; simp at hm; rcases hm with h | h <;> subst h <;> exact ⟨2, by decide, by decide⟩)

theorem s7_reachable : Reachable cfg3 s7 :=
  .step (.step (.step (.step (.step (.step (.step .base step1) step2) step3) step4) step5) step6) step7

/-- the run commits: node 1 has committed `[no-op, 42]`, node 2 stores the same two entries -/
theorem s7_committed : (s7.nodes 1).commit = 2 ∧ (s7.nodes 1).log = [⟨1, 0⟩, ⟨1, 42⟩] ∧ (s7.nodes 2).log = [⟨1, 0⟩, ⟨1, 42⟩] := by
  decide

theorem s7_acked : ∀ m ∈ [1, 2], (m, 2, 1) ∈ s7.acked := by decide

end Repl
end Raft
