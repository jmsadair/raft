/-
  Properties/C04.lean — acknowledged operations are on a majority's disk.

  The commit rule and the order of effects, for every node state: the commit index of a
  leader only ever advances to an index that holds an entry of its *current* term and
  that the leader itself plus a `hasQuorum` set of *voters* (match index) store; a reply
  to a request of another term changes no match index, and `becomeLeader` resets them all;
  the leader's own append precedes every send of the entry, a follower's append precedes
  its reply. Cluster level, on the replication-layer model
  (Proofs/ReplSafety.lean): whenever the commit rule's guard holds every member of the
  acknowledging quorum holds the leader's first `i` entries at that moment, and what is
  committed stays committed (`C04_acknowledged_is_on_a_majority`, `C04_committed_is_stable`,
  `C04_applied_prefix_never_rewritten`); that the entries are on disk is C12. The tie to the
  code is E4: at every acknowledgement the voters' logs are inspected.
-/
import RaftVerif.Proofs.LeaderSpecs
import RaftVerif.Proofs.ReplSafety
import RaftVerif.Proofs.ReplExample
import RaftVerif.Properties.C06
namespace Raft
open Node

/-- **Commit needs a current-term entry on a voter majority.** The leader counts itself only if it is a
    voter (`selfCount`, fix S24). -/
theorem C04_commit_rule (n : Node) (now : Nat) (h : n.commitIndex < (n.commitStep now).1.commitIndex) :
    n.role = .leader ∧ (n.commitStep now).1.commitIndex ≤ n.log.lastIndex ∧
    ∃ e, n.log.get? (n.commitStep now).1.commitIndex = some e ∧ e.term = n.term ∧
      n.config.hasQuorum (n.selfCount + (n.matchers (n.commitStep now).1.commitIndex).length) = true ∧
      ∀ f ∈ n.matchers (n.commitStep now).1.commitIndex,
        n.config.isVoter f.id = true ∧ f.id ≠ n.id ∧ (n.commitStep now).1.commitIndex ≤ f.mtch := by
  obtain ⟨_, _, _, _, _, hc⟩ := commitStep_spec n now
  obtain ⟨hl, ⟨e, he, ht, hq⟩, hli⟩ := hc h
  exact ⟨hl, hli, e, he, ht, hq, fun f hf => let ⟨_, h1, h2, h3⟩ := mem_matchers.mp hf; ⟨h2, h1, h3⟩⟩

/-- The commit index never moves backwards in the commit loop. -/
theorem C04_commit_monotone (n : Node) (now : Nat) : n.commitIndex ≤ (n.commitStep now).1.commitIndex :=
  (commitStep_spec n now).1

/-- **Leader: append before send.** The entry a client submitted is appended to the
    leader's log (the first effect) before any request carrying it is started. -/
theorem C04_leader_appends_before_send (n : Node) (now data : Nat) (hl : n.role = .leader) :
    ∃ rest, (n.submitReplicated now data).2.1 = Effect.logAppend [n.submitEntry data] :: rest :=
  let ⟨_, _, h⟩ := submitReplicated_leader n now data hl
  ⟨_, congrArg (·.2.1) h⟩

/-- **Match index only from the current term's acknowledgements.** A reply to a request
    of another term changes no match index (nor anything else: `onAEReply_ignored`). -/
theorem C04_match_only_from_current_term (n : Node) (now peer round : Nat) (q : AEReq) (r : AEResp)
    (h : n.term ≠ q.term) : (n.onAEReply now peer round q (some r)).1.followers = n.followers :=
  congrArg (·.1.followers) (onAEReply_ignored now round r (.inr h))

/-- **Follower: store before acknowledging.** A successful reply is only produced by a
    section whose effects contain a log append (of the missing entries: possibly none, the code
    calls `AppendEntries(toAppend)` unconditionally); with a well-formed log the log then holds an
    entry of the same term at the index of every request entry (C06_accept). -/
theorem C04_follower_stores_before_ack {n n' : Node} {now : Nat} {q : AEReq} {r : AEResp} {eff : List Effect}
    (h : appendEntries n now q = some (n', r, eff)) (hr : r.success = true) (hp : AEPre n q) :
    (∃ es, Effect.logAppend es ∈ eff) ∧ ∀ e ∈ q.entries, ∃ g, n'.log.get? e.index = some g ∧ g.term = e.term := by
  have hnf := (C06_accept h hr hp).1
  refine ⟨?_, (C06_accept h hr hp).2.2.2.1⟩
  cases appendEntries_cases h with
  | stale | reject | unreadable => nomatch hr
  | accept =>
    cases hm : mergeScan (aeEnter n now q).1.log q.entries with
    | fatal => rw [aeAccept_of_fatal now hm] at hnf; exact absurd (List.mem_append_right _ List.mem_cons_self) hnf
    | ok l1 t app =>
      rw [aeAccept_of_merge now hm]
      exact ⟨app, List.mem_append_right _ (List.mem_append_left _ (List.mem_append_right _ List.mem_cons_self))⟩

/-! Non-vacuity: a leader of term 2 in a 3-voter cluster with one follower matched at index 2 commits index 2. -/
def exL : Node :=
  { id := 1, role := .leader, term := 2, commitIndex := 1, config := ⟨1, [(1, true), (2, true), (3, true)]⟩,
    log := { ents := [⟨1, 1, kConfig, 0, none⟩, ⟨2, 2, kNoop, 0, none⟩] },
    followers := [{ id := 1 }, { id := 2, next := 3, mtch := 2 }, { id := 3, next := 1, mtch := 0 }] }
example : (exL.commitStep 0).1.commitIndex = 2 := by decide

/-- **A new leadership starts from no acknowledgements**: `becomeLeader` resets every match index
    (what an earlier leadership of the same node had recorded may have been overwritten since:
    the commit rule may only count acknowledgements of this term). -/
theorem C04_become_leader_resets_match (n : Node) (now : Nat) :
    ∀ f ∈ (n.becomeLeader now).1.followers, f.mtch = 0 := by
  intro f hf
  obtain ⟨k, h, -⟩ := becomeLeader_node n now
  rw [h] at hf
  obtain ⟨g, hg, rfl⟩ := List.mem_map.mp hf
  obtain ⟨g', _, rfl⟩ := List.mem_map.mp hg
  rfl

/-- **What is committed stays committed**: a committed prefix (a leader advanced its commit
    index over it, i.e. acknowledged it to the client) is still a committed prefix in every
    later state — across crashes of any nodes, leader changes and further appends — and so
    (C01) a prefix of, or extended by, whatever any node commits later. -/
theorem C04_committed_is_stable {cfg : Config} (hnd : cfg.voterIds.Nodup) {s s' : Repl.AState} (hr : Repl.Reachable cfg s)
    (hfrom : Repl.ReachableFrom cfg s s') (a : Nat) :
    Repl.IsCommitted cfg s' (s.nodes a).term ((s.nodes a).log.take (s.nodes a).commit) :=
  Repl.committed_stable hnd hr hfrom ((Repl.inv_reachable hnd hr).commit_ok a).2

/-- **No node ever rewrites what it has applied**: between a state and any later state in
    which the node's commit index is not lower, its log up to the old commit index is the
    same list of entries — no replication request, from any leader of any term, truncates at
    or below the commit index. -/
theorem C04_applied_prefix_never_rewritten {cfg : Config} (hnd : cfg.voterIds.Nodup) {s s' : Repl.AState}
    (hr : Repl.Reachable cfg s) (hfrom : Repl.ReachableFrom cfg s s') (n : Nat)
    (hmono : (s.nodes n).commit ≤ (s'.nodes n).commit) :
    (s'.nodes n).log.take (s.nodes n).commit = (s.nodes n).log.take (s.nodes n).commit :=
  Repl.applied_prefix_stable hnd hr hfrom n hmono

set_option linter.unusedVariables false in
/-- **Acknowledged ⇒ on a majority, at that moment** (cluster level, the statement's first clause).
    In any reachable state of the replication-layer model, whenever the leader `l` may advance its
    commit index to `i` (the guard of the code's commit rule: an entry of its own term at `i`, a
    quorum of voters `Q` whose acknowledgements of this term reach `i`), every member of `Q` holds,
    in its log and at that very moment, exactly the leader's first `i` entries — the acknowledged
    operation and everything before it. (An acknowledgement alone is a fact about the past; that the
    entries are still there follows because a quorum-acknowledged position is never dead.) `hil`, part of the
    guard, is not needed. -/
theorem C04_acknowledged_is_on_a_majority {cfg : Config} (hnd : cfg.voterIds.Nodup) {s : Repl.AState}
    (hr : Repl.Reachable cfg s) (l i : Nat) (Q : List Nat) (hl : (s.nodes l).role = .leader) (h1 : 1 ≤ i)
    (hil : i ≤ (s.nodes l).log.length) (hti : Repl.termAt (s.nodes l).log i = (s.nodes l).term)
    (hQ : Repl.IsQuorum cfg Q) (hack : ∀ m ∈ Q, ∃ j, i ≤ j ∧ (m, j, (s.nodes l).term) ∈ s.acked) :
    ∀ m ∈ Q, (s.nodes m).log.take i = (s.nodes l).log.take i := by
  have hi := Repl.inv_reachable hnd hr
  have hg := hi.leader_glog l hl
  have hnd' : ¬ Repl.Dead cfg s i (s.nodes l).term := Repl.not_dead_of_quorumAcked hnd ⟨Q, hQ, hack⟩
  intro m hm
  obtain ⟨j, hij, hmem⟩ := hack m hm
  rcases hi.ack_prefix m j (s.nodes l).term l (s.nodes l).log i hmem hg h1 hij hti with h | h
  · exact h
  · exact absurd h hnd'

/-- non-vacuity: in the example run (Proofs/ReplExample.lean) the leader 1 and node 2 form such a
    quorum for index 2 -/
example : Repl.Reachable Repl.cfg3 Repl.s7 ∧ (Repl.s7.nodes 1).role = .leader ∧ 2 ≤ (Repl.s7.nodes 1).log.length ∧
    Repl.termAt (Repl.s7.nodes 1).log 2 = (Repl.s7.nodes 1).term ∧ Repl.IsQuorum Repl.cfg3 [1, 2] ∧
    (∀ m ∈ [1, 2], ∃ j, 2 ≤ j ∧ (m, j, (Repl.s7.nodes 1).term) ∈ Repl.s7.acked) :=
  ⟨Repl.s7_reachable, by decide, by decide, by decide, Repl.quorum12,
   fun m hm => ⟨2, Nat.le_refl _, Repl.s7_acked m hm⟩⟩

end Raft
