/-
  Proofs/Prevote.lean — C16 at the cluster level: while a quorum stays in prompt contact with a
  leader, no prevote round begun in that period ever leads to a candidacy; without a candidacy
  terms are only copied, so no term in the cluster exceeds what was there.
-/
import RaftVerif.Model.Prevote
import RaftVerif.Proofs.ReplLemmas
namespace Raft
namespace Prevote

theorem RunP.holds {cfg : Config} {ET : Nat} {P : PState → Prop} {s0 s : PState} (h : RunP cfg ET P s0 s) : P s := by
  cases h with
  | base h => exact h
  | step _ _ h => exact h

theorem PStep.grants {cfg : Config} {ET : Nat} {a b : PState} (h : PStep cfg ET a b) :
    a.now ≤ b.now ∧ ∀ c m τ, (c, m, τ) ∈ b.grants → (c, m, τ) ∈ a.grants ∨ (τ = a.now ∧ ¬ inContact ET a m) := by
  cases h with
  | tick d => exact ⟨Nat.le_add_right _ _, fun _ _ _ => .inl⟩
  | grant c m hg => exact ⟨Nat.le_refl _, forall_mem_cons₃ (.inr ⟨rfl, hg⟩) fun _ _ _ => .inl⟩
  | _ => exact ⟨Nat.le_refl _, fun _ _ _ => .inl⟩

theorem RunP.now_le {cfg : Config} {ET : Nat} {P : PState → Prop} {s0 s : PState} (h : RunP cfg ET P s0 s) : s0.now ≤ s.now := by
  induction h with
  | base _ => exact Nat.le_refl _
  | step _ hs _ ih => exact Nat.le_trans ih hs.grants.1

theorem grants_past {cfg : Config} {ET : Nat} {s : PState} (h : PReachable cfg ET s) : ∀ c m τ, (c, m, τ) ∈ s.grants → τ ≤ s.now := by
  induction h with
  | base => nofun
  | step _ hs ih =>
    intro c m τ h
    rcases hs.grants.2 c m τ h with hold | ⟨e, _⟩
    · exact Nat.le_trans (ih c m τ hold) hs.grants.1
    · exact e ▸ hs.grants.1

/-- a prevote granted while the members of `Q` are in contact is not granted by a member of `Q` -/
theorem new_grants_outside {cfg : Config} {ET : Nat} {Q : List Nat} {s0 s : PState}
    (h : RunP cfg ET (QContact ET Q) s0 s) :
    ∀ c m τ, (c, m, τ) ∈ s.grants → (c, m, τ) ∈ s0.grants ∨ (s0.now ≤ τ ∧ m ∉ Q) := by
  induction h with
  | base _ => exact fun _ _ _ => .inl
  | step hrun hs _ ih =>
    intro c m τ h
    rcases hs.grants.2 c m τ h with hold | ⟨e, hg⟩
    · exact ih c m τ hold
    · exact .inr ⟨e ▸ hrun.now_le, fun hmQ => hg (hrun.holds m hmQ)⟩

/-- **No prevote round begun while a quorum is in prompt contact with a leader leads to a
    candidacy.** In a run from a reachable state `s0` every state of which has all members of the
    quorum `Q` in contact: whenever a candidacy step is enabled for `c`, `c`'s round began no later
    than the run. (Rounds begun before may still complete on grants given before; every node
    starts a fresh round at each of its election timeouts.) -/
theorem candidacy_needs_old_round {cfg : Config} (hnd : cfg.voterIds.Nodup) {ET : Nat} {Q : List Nat} (hQ : Repl.IsQuorum cfg Q)
    {s0 a : PState} (hr : PReachable cfg ET s0) (hrun : RunP cfg ET (QContact ET Q) s0 a)
    (c : Nat) (Q' : List Nat) (hQ' : Repl.IsQuorum cfg Q')
    (hg : ∀ m ∈ Q', ∃ τ, a.roundStart c ≤ τ ∧ (c, m, τ) ∈ a.grants) :
    a.roundStart c ≤ s0.now := by
  obtain ⟨v, hv1, hv2⟩ := Repl.quorum_meet hnd hQ hQ'
  obtain ⟨τ, hτ1, hτ2⟩ := hg v hv2
  rcases new_grants_outside hrun c v τ hτ2 with hold | ⟨_, hnot⟩
  · exact Nat.le_trans hτ1 (grants_past hr c v τ hold)
  · exact absurd hv1 hnot

/-- A run every step of which leaves each term at most what it was, or equal to a term some node held
    before the step: the one-step form of `terms_only_copied`. This is weaker than "no candidacy" (a
    candidacy satisfies it whenever another node already holds the new term); `PStep.copies_or_candidacy`
    is the bridge: every step that is not a candidacy satisfies it. -/
inductive RunNoCand (cfg : Config) (ET : Nat) (s0 : PState) : PState → Prop
  | base : RunNoCand cfg ET s0 s0
  | step {a b} : RunNoCand cfg ET s0 a → PStep cfg ET a b → (∀ c, b.term c ≤ a.term c ∨ ∃ k, b.term c = a.term k) → RunNoCand cfg ET s0 b

/-- along such a run terms are only copied: every term in the cluster is bounded by one that was there at its start -/
theorem terms_only_copied {cfg : Config} {ET : Nat} {s0 s : PState} (h : RunNoCand cfg ET s0 s) :
    ∀ n, ∃ k, s.term n ≤ s0.term k := by
  induction h with
  | base => intro n; exact ⟨n, Nat.le_refl _⟩
  | step _ _ hb ih =>
    intro n
    rcases hb n with h | ⟨k, hk⟩
    · obtain ⟨k, hk⟩ := ih n; exact ⟨k, Nat.le_trans h hk⟩
    · obtain ⟨k', hk'⟩ := ih k; exact ⟨k', hk ▸ hk'⟩

theorem PStep.copies_or_candidacy {cfg : Config} {ET : Nat} {a b : PState} (h : PStep cfg ET a b) :
    (∀ c, b.term c ≤ a.term c ∨ ∃ k, b.term c = a.term k) ∨
    ∃ c Q, Repl.IsQuorum cfg Q ∧ b = { a with term := setAt a.term c (a.term c + 1) } := by
  cases h with
  | candidacy c Q hQ => exact .inr ⟨c, Q, hQ, rfl⟩
  | adopt n k =>
    refine .inl fun c => ?_
    by_cases hc : c = n
    · exact .inr ⟨k, if_pos hc⟩
    · exact .inl (Nat.le_of_eq (if_neg hc))
  | _ => exact .inl fun _ => .inl (Nat.le_refl _)

/-- A step whose result is not what a candidacy (of any node, with any quorum) would leave only copies
    terms. The hypothesis speaks of the resulting state, so it also leaves out an `adopt` that raises a
    term by exactly one, although such a step copies as well (`PStep.copies_or_candidacy` covers it). -/
theorem step_copies {cfg : Config} {ET : Nat} {a b : PState} (h : PStep cfg ET a b)
    (hnc : ∀ c Q, b ≠ { a with term := setAt a.term c (a.term c + 1) } ∨ ¬ Repl.IsQuorum cfg Q) :
    (∀ c, b.term c ≤ a.term c ∨ ∃ k, b.term c = a.term k) :=
  h.copies_or_candidacy.resolve_right fun ⟨c, Q, hQ, e⟩ => (hnc c Q).elim (· e) (· hQ)

end Prevote
end Raft
