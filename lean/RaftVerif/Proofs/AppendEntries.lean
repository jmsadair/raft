/-
  Proofs/AppendEntries.lean — the replication handler. Each piece (merge loop, previous-entry check, accepting
  part) is unfolded here (the merge loop once more in Proofs/Compaction.lean, for requests that need not be
  contiguous; `aeEnter` is an instance of `Node.becomeFollower_twice`); what `appendEntries` does to log, commit
  index and term and which effects it emits is read off `appendEntries_cases`.
-/
import RaftVerif.Proofs.LogLemmas
import RaftVerif.Proofs.NodeLemmas
import RaftVerif.Proofs.TermVote
namespace Raft
open Log

/-- One round of the merge loop: append what is left, skip an entry already stored, or cut at a conflict. -/
theorem mergeScan_cons {l : Log} (hl : l.WF) {e : Entry} (es : List Entry) {p : Nat} (he : e.index = p + 1)
    (hb : l.base ≤ p) (hp : p ≤ l.lastIndex) :
    (l.lastIndex = p ∧ mergeScan l (e :: es) = .ok l none (e :: es)) ∨
    ∃ ex, l.get? e.index = some ex ∧ l.contains e.index = true ∧
      ((ex.term = e.term ∧ mergeScan l (e :: es) = mergeScan l es) ∨
       (ex.term ≠ e.term ∧ mergeScan l (e :: es) =
          .ok { l with ents := l.ents.take (e.index - l.base - 1) } (some e.index) (e :: es))) := by
  rw [mergeScan]
  by_cases hlt : l.lastIndex < e.index
  · exact .inl ⟨Nat.le_antisymm (Nat.le_of_lt_add_one (he ▸ hlt)) hp, if_pos hlt⟩
  · have hlo : l.base < e.index := he ▸ Nat.lt_succ_of_le hb
    have hcont : l.contains e.index = true := (wf_contains_iff hl).mpr ⟨hlo, Nat.le_of_not_lt hlt⟩
    obtain ⟨ex, hex⟩ := wf_get?_some hl hlo (Nat.le_of_not_lt hlt)
    refine .inr ⟨ex, hex, hcont, ?_⟩
    rw [if_neg hlt, hex]
    by_cases hterm : ex.term = e.term
    · have hnc : isConflict ex e = false := by simp [isConflict, hterm]
      exact .inl ⟨hterm, by simp only [hnc, Bool.not_false, if_true]⟩
    · have hc : isConflict ex e = true := by simp [isConflict, wf_get?_index hl hex, hterm]
      exact .inr ⟨hterm, by simp only [hc, Bool.not_true, Bool.false_eq_true, if_false, truncate_eq_some hcont]⟩

/-- **The merge loop** on a well-formed log and a contiguous request, in terms of the log `l'.append app` the
    handler is left with: nothing at or below `p` changes, every request entry is there with its term, an
    entry survives unless a request entry at an index not above it disagrees in term, and a truncation
    happens only at such a disagreement. -/
theorem mergeScan_spec {l : Log} (hl : l.WF) :
    ∀ (es : List Entry) (p : Nat), Contig p es → l.base ≤ p → p ≤ l.lastIndex →
    ∃ l' t app, mergeScan l es = .ok l' t app ∧ (l'.append app).WF ∧ l'.base = l.base ∧
      (∀ i, i ≤ p → (l'.append app).get? i = l.get? i) ∧
      (∀ e ∈ es, ∃ g, (l'.append app).get? e.index = some g ∧ g.term = e.term) ∧
      (∀ i g, l.get? i = some g →
          (∀ e ∈ es, e.index ≤ i → ∃ ex, l.get? e.index = some ex ∧ ex.term = e.term) →
          (l'.append app).get? i = some g) ∧
      (∀ c, t = some c → p < c ∧ ∃ e ∈ es, e.index = c ∧ ∃ ex, l.get? c = some ex ∧ ex.term ≠ e.term) := by
  intro es
  induction es with
  | nil =>
    intro p _ _ _
    exact ⟨l, none, [], rfl, by rwa [append_nil], rfl, fun _ _ => by rw [append_nil], nofun,
      fun _ _ hg _ => by rwa [append_nil], nofun⟩
  | cons e es ih =>
    intro p ⟨he, hces⟩ hb hp
    rcases mergeScan_cons hl es he hb hp with ⟨hlast, hm⟩ | ⟨ex, hex, hcont, ⟨hterm, hm⟩ | ⟨hterm, hm⟩⟩ <;> rw [hm]
    · -- beyond the log: append everything that is left
      have hcont : Contig l.lastIndex (e :: es) := by rw [hlast]; exact ⟨he, hces⟩
      exact ⟨l, none, e :: es, rfl, wf_append hl hcont, rfl, fun i hi => get?_append_le (wf_lastIndex hl ▸ Nat.le_trans hi hp),
        fun e' he' => ⟨e', get?_append_right hl hcont e' he', rfl⟩,
        fun i g hg _ => (get?_append_left (get?_eq_some_iff.mp hg).1).trans hg, nofun⟩
    · -- same term: keep the existing entry and look at the next one
      have hle := ((wf_contains_iff hl).mp hcont).2
      obtain ⟨l', t, app, hm, hw', hb', hpres, hall, hkeep, hts⟩ := ih (p + 1) hces (Nat.le_succ_of_le hb) (he ▸ hle)
      refine ⟨l', t, app, hm, hw', hb', fun i hi => hpres i (Nat.le_succ_of_le hi),
        List.forall_mem_cons.mpr ⟨⟨ex, (hpres _ (Nat.le_of_eq he)).trans hex, hterm⟩, hall⟩,
        fun i g hg hnc => hkeep i g hg fun e' he' => hnc e' (List.mem_cons_of_mem _ he'), fun c hc => ?_⟩
      obtain ⟨h1, e', he', h3⟩ := hts c hc
      exact ⟨Nat.lt_of_succ_lt h1, e', List.mem_cons_of_mem _ he', h3⟩
    · -- conflict: truncate here and append the rest of the request
      have htr := truncate_eq_some hcont
      have hw' := wf_truncate hl htr
      have hli' := truncate_lastIndex hl htr
      have hcont' : Contig ({ l with ents := l.ents.take (e.index - l.base - 1) } : Log).lastIndex (e :: es) := by
        rw [hli', he, Nat.add_sub_cancel]; exact ⟨he, hces⟩
      have hlow : ∀ {i app}, i < e.index →
          (({ l with ents := l.ents.take (e.index - l.base - 1) } : Log).append app).get? i = l.get? i := by
        intro i app hi
        rw [get?_append_le ((wf_lastIndex hw').symm.trans hli' ▸ Nat.le_sub_one_of_lt hi), get?_truncate_lt htr hi]
      refine ⟨_, some e.index, e :: es, rfl, wf_append hw' hcont', rfl, fun i hi => hlow (he ▸ Nat.lt_succ_of_le hi),
        fun e' he' => ⟨e', get?_append_right hw' hcont' e' he', rfl⟩, fun i g hg hnc => ?_, fun c hc => ?_⟩
      · refine (hlow (Nat.lt_of_not_le fun hle => ?_)).trans hg
        obtain ⟨ex', hex', ht'⟩ := hnc e List.mem_cons_self hle
        rw [hex] at hex'; cases hex'; exact hterm ht'
      · cases hc; exact ⟨he ▸ Nat.lt_succ_self p, e, List.mem_cons_self, rfl, ex, hex, hterm⟩

open Node

/-- `aeEnter` is the contact bookkeeping followed by at most one `becomeFollower`. -/
theorem aeEnter_eq (n : Node) (now : Nat) (q : AEReq) :
    aeEnter n now q =
      if q.term > n.term ∨ (q.term = n.term ∧ (n.role = .candidate ∨ n.role = .precandidate))
      then ({ n with lastContact := now, leaderId := q.leaderId } : Node).becomeFollower now q.leaderId q.term
      else ({ n with lastContact := now, leaderId := q.leaderId }, []) :=
  becomeFollower_twice { n with lastContact := now, leaderId := q.leaderId } now q.leaderId q.term

theorem aeEnter_follows (n : Node) (now : Nat) (q : AEReq) :
    MaybeFollows { n with lastContact := now, leaderId := q.leaderId } now q.term (aeEnter n now q) := by
  rw [aeEnter_eq]; exact .twice ..

theorem aeEnter_term_vote (n : Node) (now : Nat) (q : AEReq) (hle : n.term ≤ q.term) :
    (aeEnter n now q).1.term = q.term ∧ (aeEnter n now q).1.votedFor = if q.term > n.term then 0 else n.votedFor := by
  rw [aeEnter_eq]
  by_cases h : q.term > n.term ∨ (q.term = n.term ∧ (n.role = .candidate ∨ n.role = .precandidate))
  · rw [if_pos h]; exact ⟨rfl, rfl⟩
  · have hgt : ¬ q.term > n.term := fun h' => h (.inl h')
    rw [if_neg h, if_neg hgt]; exact ⟨Nat.le_antisymm hle (Nat.le_of_not_lt hgt), rfl⟩

theorem aeEnter_snapTerm (n : Node) (now : Nat) (q : AEReq) : (aeEnter n now q).1.snapTerm = n.snapTerm :=
  (aeEnter_follows n now q).snapTerm

/-- The exits of the previous-entry check, each with the tests that lead to it. -/
inductive PrevOutcome (n : Node) (q : AEReq) : PrevCheck → Prop
  | ok : n.snapIndex ≤ q.prevIndex → q.prevIndex ≤ n.log.lastIndex →
      (n.snapIndex < q.prevIndex → ∃ pe, n.log.get? q.prevIndex = some pe ∧ pe.term = q.prevTerm) →
      (n.snapIndex = q.prevIndex → n.snapTerm = q.prevTerm) → PrevOutcome n q .ok
  | compacted : n.snapIndex > q.prevIndex → PrevOutcome n q (.reject (n.snapIndex + 1))
  | short : n.log.nextIndex ≤ q.prevIndex → PrevOutcome n q (.reject n.log.nextIndex)
  | boundaryTerm : n.snapIndex = q.prevIndex → n.snapTerm ≠ q.prevTerm → PrevOutcome n q (.reject n.snapIndex)
  | conflict {pe : Entry} {i : Nat} : n.snapIndex < q.prevIndex → n.log.get? q.prevIndex = some pe →
      pe.term ≠ q.prevTerm → conflictScan n.log n.snapIndex pe.term (q.prevIndex - 1) = some i →
      PrevOutcome n q (.reject (i + 1))
  /-- `GetEntry` failed, on the previous entry or inside the conflict scan -/
  | unreadable : n.snapIndex < q.prevIndex → q.prevIndex ≤ n.log.lastIndex →
      (n.log.get? q.prevIndex = none ∨ ∃ pe, n.log.get? q.prevIndex = some pe ∧ pe.term ≠ q.prevTerm ∧
        conflictScan n.log n.snapIndex pe.term (q.prevIndex - 1) = none) → PrevOutcome n q .fatal

theorem aePrevCheck_cases (n : Node) (q : AEReq) : PrevOutcome n q (aePrevCheck n q) := by
  unfold aePrevCheck
  by_cases h1 : n.snapIndex > q.prevIndex
  · rw [if_pos h1]; exact .compacted h1
  rw [if_neg h1]
  by_cases h2 : n.log.nextIndex ≤ q.prevIndex
  · rw [if_pos h2]; exact .short h2
  rw [if_neg h2]
  have hlast : q.prevIndex ≤ n.log.lastIndex := Nat.le_of_lt_succ (Nat.lt_of_not_le h2)
  by_cases h3 : n.snapIndex = q.prevIndex ∧ n.snapTerm ≠ q.prevTerm
  · rw [if_pos h3]; exact .boundaryTerm h3.1 h3.2
  rw [if_neg h3]
  by_cases h4 : n.snapIndex < q.prevIndex
  · rw [if_pos h4]
    cases hg : n.log.get? q.prevIndex with
    | none => exact .unreadable h4 hlast (.inl hg)
    | some pe =>
      dsimp only
      by_cases h5 : pe.term ≠ q.prevTerm
      · rw [if_pos h5]
        cases hc : conflictScan n.log n.snapIndex pe.term (q.prevIndex - 1) with
        | none => exact .unreadable h4 hlast (.inr ⟨pe, hg, h5, hc⟩)
        | some i => exact .conflict h4 hg h5 hc
      · rw [if_neg h5]
        exact .ok (Nat.le_of_lt h4) hlast (fun _ => ⟨pe, hg, Classical.not_not.mp h5⟩) (fun h => absurd h (Nat.ne_of_lt h4))
  · rw [if_neg h4]
    exact .ok (Nat.le_of_not_lt h1) hlast (fun h => absurd h h4) fun h => Classical.not_not.mp fun hne => h3 ⟨h, hne⟩

theorem aePrevCheck_ok_iff {n : Node} {q : AEReq} : aePrevCheck n q = .ok ↔
    n.snapIndex ≤ q.prevIndex ∧ q.prevIndex ≤ n.log.lastIndex ∧
    (n.snapIndex < q.prevIndex → ∃ pe, n.log.get? q.prevIndex = some pe ∧ pe.term = q.prevTerm) ∧
    (n.snapIndex = q.prevIndex → n.snapTerm = q.prevTerm) := by
  refine ⟨fun h => ?_, fun ⟨k1, k2, k3, k4⟩ => ?_⟩
  · have hc := aePrevCheck_cases n q
    rw [h] at hc; cases hc with | ok k1 k2 k3 k4 => exact ⟨k1, k2, k3, k4⟩
  · -- with the four facts every test goes the way of `.ok`
    have h2 : ¬ n.log.nextIndex ≤ q.prevIndex := Nat.not_le.mpr (Nat.lt_succ_of_le k2)
    unfold aePrevCheck
    rw [if_neg (Nat.not_lt.mpr k1), if_neg h2, if_neg fun h => h.2 (k4 h.1)]
    by_cases h4 : n.snapIndex < q.prevIndex
    · obtain ⟨pe, hg, ht⟩ := k3 h4
      rw [if_pos h4, hg]; exact if_neg (not_not_intro ht)
    · rw [if_neg h4]

theorem aePrevCheck_reject {n : Node} {q : AEReq} {h : Nat} (hr : aePrevCheck n q = .reject h) :
    (n.snapIndex > q.prevIndex ∧ h = n.snapIndex + 1) ∨ (n.log.nextIndex ≤ q.prevIndex ∧ h = n.log.nextIndex) ∨
    (n.snapIndex = q.prevIndex ∧ h = n.snapIndex) ∨
    (n.snapIndex < q.prevIndex ∧ ∃ pe i, n.log.get? q.prevIndex = some pe ∧
      conflictScan n.log n.snapIndex pe.term (q.prevIndex - 1) = some i ∧ h = i + 1) := by
  have hc := aePrevCheck_cases n q
  rw [hr] at hc
  cases hc with
  | compacted h1 => exact .inl ⟨h1, rfl⟩
  | short h2 => exact .inr (.inl ⟨h2, rfl⟩)
  | boundaryTerm h3 => exact .inr (.inr (.inl ⟨h3, rfl⟩))
  | conflict h4 hg _ hcs => exact .inr (.inr (.inr ⟨h4, _, _, hg, hcs, rfl⟩))

theorem conflictScan_le (l : Log) (s t i r : Nat) (h : conflictScan l s t i = some r) : r ≤ i := by
  induction i with
  | zero => cases h; exact Nat.le_refl 0
  | succ i ih =>
    unfold conflictScan at h
    split at h
    · split at h
      · cases h
      · split at h
        · cases h; exact Nat.le_refl _
        · exact Nat.le_succ_of_le (ih h)
    · cases h; exact Nat.le_refl _

theorem conflictScan_some (l : Log) (hw : l.WF) (s t : Nat) (hs : l.base ≤ s) (i : Nat) (hi : i ≤ l.lastIndex) :
    (conflictScan l s t i).isSome := by
  induction i with
  | zero => rfl
  | succ i ih =>
    unfold conflictScan
    split
    · rename_i hgt
      obtain ⟨e, he⟩ := wf_get?_some hw (Nat.lt_of_le_of_lt hs hgt) hi
      rw [he]; simp only
      split
      · rfl
      · exact ih (Nat.le_of_succ_le hi)
    · rfl

/-- Preconditions under which the accepting path is analysed: a well-formed log whose
    base is covered by the snapshot boundary, and a request whose entries are
    contiguous from `prevIndex + 1` (what `prepareAE` is meant to build; no theorem here says it does). -/
structure AEPre (n : Node) (q : AEReq) : Prop where
  wf : n.log.WF
  base_le : n.log.base ≤ n.snapIndex
  contig : Contig q.prevIndex q.entries

theorem aeAccept_of_fatal {n : Node} (now : Nat) {q : AEReq} (hm : mergeScan n.log q.entries = .fatal) :
    aeAccept n now q = (n, [.fatal]) := by
  unfold aeAccept; rw [hm]

/-- **The accepting part after a successful merge**, in closed form. The configuration fallback (the
    truncation reached the configuration entry) acts on the node as it was. -/
theorem aeAccept_of_merge {n : Node} (now : Nat) {q : AEReq} {l1 : Log} {tr : Option Nat} {ta : List Entry}
    (hm : mergeScan n.log q.entries = .ok l1 tr ta) :
    aeAccept n now q =
      ({ (if tr.any (· ≤ n.config.index) then n.nextConfiguration now n.committed else (n, [])).1 with
          log := l1.append ta,
          commitIndex := max n.commitIndex (min q.leaderCommit (q.prevIndex + q.entries.length)) },
       tr.toList.map Effect.logTruncate ++
         (if tr.any (· ≤ n.config.index) then n.nextConfiguration now n.committed else (n, [])).2 ++ [.logAppend ta] ++
         if min q.leaderCommit (q.prevIndex + q.entries.length) > n.commitIndex then [.signalApply] else []) := by
  obtain ⟨k, e, hk⟩ := nextConfiguration_eq n now n.committed
  have hk0 : n.nextConfiguration now n.committed = _ := hk n.log n.snapIndex n.snapTerm
  have hk1 : Node.nextConfiguration { n with log := l1 } now n.committed = _ := hk l1 n.snapIndex n.snapTerm
  -- the commit step as one update, so that only the configuration fallback is left to split on
  -- (`-zeta` below: the rewrite matches while the node before the step is still a `let` variable)
  have commit : ∀ (m : Node) (c : Nat),
      (if c > m.commitIndex then ({ m with commitIndex := c }, [Effect.signalApply]) else (m, [])) =
        (({ m with commitIndex := max m.commitIndex c } : Node), if c > m.commitIndex then [Effect.signalApply] else []) := by
    intro m c
    by_cases hc : c > m.commitIndex
    · rw [if_pos hc, if_pos hc, Nat.max_eq_right (Nat.le_of_lt hc)]
    · rw [if_neg hc, if_neg hc, Nat.max_eq_left (Nat.le_of_not_lt hc)]
  unfold aeAccept
  rw [hm]
  simp -zeta only [commit]
  cases tr with
  | none => rfl
  | some ti =>
    by_cases hti : ti ≤ n.config.index
    · simp only [Option.any_some, decide_eq_true hti, if_true, if_pos hti, hk0, hk1]; rfl
    · simp only [Option.any_some, decide_eq_false hti, Bool.false_eq_true, if_false, if_neg hti]; rfl

theorem aeAccept_node (n : Node) (now : Nat) (q : AEReq) :
    ∃ k : Node, (aeAccept n now q).1 =
      { n with log := k.log, commitIndex := k.commitIndex, role := k.role, followers := k.followers, config := k.config, pendingRep := k.pendingRep,
               pendingReads := k.pendingReads, shouldVerify := k.shouldVerify, leaseExpiry := k.leaseExpiry, readSeq := k.readSeq,
               recv := k.recv } ∧
      (k.role = .leader → n.role = .leader) ∧ (n.committed = some n.config → k.config = n.config) := by
  cases hm : mergeScan n.log q.entries with
  | fatal => rw [aeAccept_of_fatal now hm]; exact ⟨n, rfl, id, fun _ => rfl⟩
  | ok l1 tr ta =>
    rw [aeAccept_of_merge now hm]
    by_cases hf : tr.any (· ≤ n.config.index) = true
    · -- the fallback is handed `n.committed`: the configuration stays if that is the one in force
      obtain ⟨k, hk, hr, hc⟩ := nextConfiguration_node n now n.committed
      rw [if_pos hf, hk]
      exact ⟨{ k with log := l1.append ta, commitIndex := max n.commitIndex (min q.leaderCommit (q.prevIndex + q.entries.length)) },
        rfl, hr, hc _⟩
    · rw [if_neg hf]
      exact ⟨{ n with log := l1.append ta, commitIndex := max n.commitIndex (min q.leaderCommit (q.prevIndex + q.entries.length)) },
        rfl, id, fun _ => rfl⟩

theorem mem_aeAccept {n : Node} {now : Nat} {q : AEReq} {l1 : Log} {tr : Option Nat} {ta : List Entry} {e : Effect}
    (hm : mergeScan n.log q.entries = .ok l1 tr ta) (h : e ∈ (aeAccept n now q).2) :
    (∃ c, tr = some c ∧ e = .logTruncate c) ∨ e = .logAppend ta ∨ e = .signalApply ∨
      e = .panic ∨ e = .failFutures ∨ e = .snapDiscard := by
  rw [aeAccept_of_merge now hm] at h
  simp only [List.mem_append, List.mem_map, Option.mem_toList, List.mem_singleton, List.mem_ite_nil_right] at h
  rcases h with ((⟨c, hc, rfl⟩ | h) | h) | ⟨_, h⟩
  · exact .inl ⟨c, hc, rfl⟩
  · split at h
    · exact .inr (.inr (.inr ((mem_nextConfiguration h).imp_left And.right)))
    · cases h
  · exact .inr (.inl h)
  · exact .inr (.inr (.inl h))

theorem aeAccept_term_vote (n : Node) (now : Nat) (q : AEReq) :
    (aeAccept n now q).1.term = n.term ∧ (aeAccept n now q).1.votedFor = n.votedFor := by
  obtain ⟨k, hk, _⟩ := aeAccept_node n now q
  rw [hk]; exact ⟨rfl, rfl⟩

/-- What a completed run of the replication handler returns; after the stale-term test the node has gone
    through `aeEnter`. -/
inductive AEOutcome (n : Node) (now : Nat) (q : AEReq) : Node → AEResp → List Effect → Prop
  | stale : q.term < n.term → AEOutcome n now q n { term := n.term, success := false } []
  /-- refused by the previous-entry check, with a hint -/
  | reject {i : Nat} : n.term ≤ q.term → aePrevCheck (aeEnter n now q).1 q = .reject i →
      AEOutcome n now q (aeEnter n now q).1 { term := q.term, success := false, index := i } (aeEnter n now q).2
  /-- the check could not read the log -/
  | unreadable : n.term ≤ q.term → aePrevCheck (aeEnter n now q).1 q = .fatal →
      AEOutcome n now q (aeEnter n now q).1 { term := q.term, success := false } ((aeEnter n now q).2 ++ [.fatal])
  | accept : n.term ≤ q.term → aePrevCheck (aeEnter n now q).1 q = .ok →
      AEOutcome n now q (aeAccept (aeEnter n now q).1 now q).1 { term := q.term, success := true }
        ((aeEnter n now q).2 ++ (aeAccept (aeEnter n now q).1 now q).2)

theorem appendEntries_cases {n n' : Node} {now : Nat} {q : AEReq} {r : AEResp} {eff : List Effect}
    (h : appendEntries n now q = some (n', r, eff)) : AEOutcome n now q n' r eff := by
  unfold appendEntries at h
  by_cases hs : n.role = .shutdown
  · rw [if_pos hs] at h; cases h
  rw [if_neg hs] at h
  by_cases ht : q.term < n.term
  · rw [if_pos ht] at h; cases h; exact .stale ht
  rw [if_neg ht] at h
  have hle : n.term ≤ q.term := Nat.le_of_not_lt ht
  -- the reply carries the term after `aeEnter`, which is the request's
  have hT := (aeEnter_term_vote n now q hle).1
  cases hc : aePrevCheck (aeEnter n now q).1 q with
  | reject i => simp only [hc, hT] at h; cases h; exact .reject hle hc
  | fatal => simp only [hc, hT] at h; cases h; exact .unreadable hle hc
  | ok => simp only [hc, hT] at h; cases h; exact .accept hle hc

/-- What the sender learns, read forwards: success is exactly "the previous-entry check passed". -/
theorem appendEntries_reply (n : Node) (now : Nat) (q : AEReq) :
    (appendEntries n now q).map (fun r => (r.2.1.success, r.2.1.term)) =
      if n.role = .shutdown then none else if q.term < n.term then some (false, n.term)
      else some (decide (aePrevCheck (aeEnter n now q).1 q = .ok), q.term) := by
  unfold appendEntries
  by_cases hs : n.role = .shutdown
  · rw [if_pos hs, if_pos hs]; rfl
  rw [if_neg hs, if_neg hs]
  by_cases ht : q.term < n.term
  · rw [if_pos ht, if_pos ht]; rfl
  rw [if_neg ht, if_neg ht]
  have hT := (aeEnter_term_vote n now q (Nat.le_of_not_lt ht)).1
  cases hc : aePrevCheck (aeEnter n now q).1 q <;> simp only [hc, hT] <;> rfl

/-- the replication handler persists at most the pair it steps to; the accepting part persists nothing -/
theorem appendEntries_tvRun {n n' : Node} {now : Nat} {q : AEReq} {r : AEResp} {eff : List Effect}
    (h : appendEntries n now q = some (n', r, eff)) : TVRun (n.term, n.votedFor) eff (n'.term, n'.votedFor) := by
  have hf : TVRun (n.term, n.votedFor) _ _ := (aeEnter_follows n now q).tvRun
  cases appendEntries_cases h with
  | stale => exact ⟨trivial, rfl⟩
  | reject => exact hf
  | unreadable => exact hf.append (.quiet fun t v hm => by cases List.mem_singleton.mp hm)
  | accept =>
    rw [(aeAccept_term_vote _ now q).1, (aeAccept_term_vote _ now q).2]
    refine hf.append (.quiet fun t v hm => ?_)
    cases hms : mergeScan (aeEnter n now q).1.log q.entries with
    | fatal => rw [aeAccept_of_fatal now hms] at hm; cases List.mem_singleton.mp hm
    | ok => rcases mem_aeAccept hms hm with ⟨_, _, h⟩ | h | h | h | h | h <;> cases h

end Raft
