/-
  Proofs/ReplSteps4.lean — preservation of the invariant when a node accepts a replication
  request (`recvAEok`): the merge keeps every committed and every quorum-relevant prefix.
-/
import RaftVerif.Proofs.ReplSteps1
namespace Raft
namespace Repl

theorem inv_recvAEok {cfg : Config} (hnd : cfg.voterIds.Nodup) {s : AState} (hi : Inv cfg s) (n : Nat) (m : AEMsg)
    (hm : m ∈ s.aes) (hterm : (s.nodes n).term ≤ m.term)
    (hprev : m.prev ≤ (s.nodes n).log.length) (hpt : termAt (s.nodes n).log m.prev = m.prevTerm) :
    Inv cfg { s with
      nodes := setNode s n { term := m.term, role := .follower,
                             log := merge (s.nodes n).log m.prev m.entries,
                             commit := max (s.nodes n).commit (min m.commit (m.prev + m.entries.length)) },
      acked := (n, m.prev + m.entries.length, m.term) :: s.acked } := by
  obtain ⟨cm, gm, hgm, hKg, hseg, hprevT, _, hmcom⟩ := hi.msg_ok m hm
  let lg := (s.nodes n).log
  let K := m.prev + m.entries.length
  let R := merge lg m.prev m.entries
  have hlm := lm_agree hi n m.term cm gm hgm
  have hpre : lg.take m.prev = gm.take m.prev := hlm m.prev hprev (Nat.le_trans (Nat.le_add_right _ _) hKg) (hpt.trans hprevT)
  obtain ⟨hR1, hR2, hR3⟩ : R.take K = gm.take K ∧ (R = lg ∨ R = gm.take K) ∧ (K ≤ lg.length → lg.take K = gm.take K → R = lg) :=
    merge_spec lg gm m.entries m.prev hprev hpre hseg fun i _ h2 h3 h4 => hlm i h2 (Nat.le_trans h3 hKg) h4
  -- a prefix of the old log that agrees with `gm` survives the merge
  have hsurvive : ∀ i, i ≤ lg.length → lg.take i = gm.take i → R.take i = lg.take i := by
    intro i hil hp
    rcases hR2 with h | h
    · rw [h]
    · rcases Nat.le_total i K with hiK | hiK
      · rw [h, take_take_le hiK, hp]
      · rw [hR3 (Nat.le_trans hiK hil) (take_eq_of_le hp hiK)]
  -- first the node (`inv_setNode`), then its acknowledgement (`inv_addAck`)
  refine inv_addAck (n := n) (K := K) (inv_setNode hi n ⟨m.term, .follower, R, _⟩ hterm (Or.inl rfl) ?_ ?_ ?_ ?_) m.term cm gm
    (by show (setNode s n _ n).term = _; rw [setNode_same]) hgm hKg (by show (setNode s n _ n).log.take _ = _; rw [setNode_same]; exact hR1)
  · show (∀ e ∈ R, e.term ≤ m.term) ∧ Sorted R
    rcases hR2 with hR | hR <;> rw [hR]
    · exact ⟨fun e he => Nat.le_trans ((hi.log_shape n).1 e he) hterm, (hi.log_shape n).2⟩
    · obtain ⟨hs1, hs2, _, _⟩ := hi.glog_shape m.term cm gm hgm
      exact ⟨fun e he => hs1 e (List.mem_of_mem_take he), hs2.sublist (List.take_sublist K gm)⟩
  · intro k h1 hk
    show ∃ c g, s.glog (termAt R k) = some (c, g) ∧ k ≤ g.length ∧ R.take k = g.take k
    have hk' : k ≤ R.length := hk
    rcases hR2 with hR | hR <;> rw [hR] at hk' ⊢
    · exact hi.node_lm n k h1 hk'
    · have hkK : k ≤ K := Nat.le_trans hk' (List.length_take_le _ _)
      obtain ⟨c1, g1, hg1, hk1, hp1⟩ := hi.glog_lm m.term cm gm hgm k h1 (Nat.le_trans hkK hKg)
      exact ⟨c1, g1, by rw [termAt_take hkK]; exact hg1, hk1, by rw [take_take_le hkK]; exact hp1⟩
  · -- what `n` acknowledged earlier agrees with the sender's log, so the merge keeps it
    intro j t c g k h hg h1 hk hti
    show R.take k = g.take k ∨ _
    have hkg : k ≤ g.length := Nat.le_trans hk (hi.ack_le h hg)
    refine (hi.ack_prefix n j t c g k h hg h1 hk hti).elim (fun hp => ?_) Or.inr
    refine (hi.lc_le hgm hg (Nat.le_trans (hi.ack_ok n j t h).1 hterm) h1 hkg hti).imp_left fun hrel => ?_
    rw [hsurvive k (length_of_take_eq hp hkg) (hp.trans hrel.symm)]; exact hp
  · obtain ⟨hoc1, hoc2⟩ := hi.commit_ok n
    show max (s.nodes n).commit (min m.commit K) ≤ R.length ∧ IsCommitted cfg s m.term (R.take (max (s.nodes n).commit (min m.commit K)))
    have hRK : K ≤ R.length := length_of_take_eq hR1 hKg
    -- the committed prefix survives: it lies on the sender's log (`prefix_glog`)
    have hA : R.take (s.nodes n).commit = lg.take (s.nodes n).commit := by
      have := List.prefix_iff_eq_take.mp (hoc2.prefix_glog hnd hi hgm hterm)
      rw [List.length_take_of_le hoc1] at this
      exact hsurvive _ hoc1 this
    have hAlen : (s.nodes n).commit ≤ R.length := length_of_take_eq hA hoc1
    rcases Nat.le_total (min m.commit K) (s.nodes n).commit with hle | hle
    · rw [Nat.max_eq_left hle, hA]
      exact ⟨hAlen, hoc2.mono (Ext.refl_of _ _ rfl rfl rfl) hterm⟩
    · rw [Nat.max_eq_right hle]
      refine ⟨Nat.le_trans (Nat.min_le_right _ _) hRK, ?_⟩
      have hB : R.take (min m.commit K) = (gm.take m.commit).take (min m.commit K) := by
        rw [take_take_le (Nat.min_le_left _ _)]
        exact take_eq_of_le hR1 (Nat.min_le_right _ _)
      rw [hB]
      exact hmcom.prefix (List.take_prefix _ _)

end Repl
end Raft
