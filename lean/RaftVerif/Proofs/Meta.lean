/-
  Proofs/Meta.lean — round trip of the snapshot metadata file (decimal, base64, the JSON shape).
-/
import RaftVerif.Model.Meta
namespace Raft.Meta
open Raft.Bytes

/-- fixed-width decimal rendering: `k` digits, most significant first -/
def fixedDec : Nat → Nat → List Nat
  | 0, _ => []
  | k + 1, n => fixedDec k (n / 10) ++ [48 + n % 10]

theorem fixedDec_length (k n : Nat) : (fixedDec k n).length = k := by
  induction k generalizing n with
  | zero => rfl
  | succ k ih => simp [fixedDec, ih]

/-- the library's rendering of a number is the fixed-width one at the number's own width (`k = 0` also for `n = 0`) -/
theorem decAux_fixedDec (k fuel n : Nat) (acc : List Nat) (hk : k ≤ fuel) (h1 : k = 0 ∨ 10 ^ k ≤ n) (h2 : n < 10 ^ (k + 1)) :
    decAux fuel n acc = fixedDec (k + 1) n ++ acc := by
  induction k generalizing fuel n acc with
  | zero =>
    have hn : n < 10 := h2
    cases fuel <;> simp [decAux, fixedDec, hn, Nat.mod_eq_of_lt hn]
  | succ k ih =>
    obtain ⟨fuel, rfl⟩ := Nat.exists_eq_add_one_of_ne_zero (Nat.ne_zero_of_lt hk)
    -- dividing by 10 takes one digit off both bounds
    have lo : 10 ^ k ≤ n / 10 := (Nat.le_div_iff_mul_le (by decide)).mpr (h1.resolve_left (Nat.succ_ne_zero k))
    have hi : n / 10 < 10 ^ (k + 1) := Nat.div_lt_of_lt_mul (Nat.pow_succ' ▸ h2)
    have hn : ¬ n < 10 := fun h => Nat.not_le.mpr (Nat.pow_pos (by decide)) (Nat.div_eq_of_lt h ▸ lo)
    rw [decAux, if_neg hn, ih fuel (n / 10) _ (Nat.le_of_succ_le_succ hk) (.inr lo) hi]
    exact (List.append_assoc _ [_] acc).symm

theorem decAux_fixed : ∀ (k fuel n : Nat) (acc : List Nat), k ≤ fuel → 10 ^ k ≤ n → n < 10 ^ (k + 1) →
    decAux fuel n acc = fixedDec (k + 1) n ++ acc :=
  fun k fuel n acc hk h1 => decAux_fixedDec k fuel n acc hk (.inr h1)

theorem width_exists (fuel n : Nat) (h : n < 10 ^ (fuel + 1)) : ∃ k, k ≤ fuel ∧ (k = 0 ∨ 10 ^ k ≤ n) ∧ n < 10 ^ (k + 1) := by
  induction fuel with
  | zero => exact ⟨0, Nat.le_refl _, .inl rfl, h⟩
  | succ fuel ih =>
    by_cases hlo : 10 ^ (fuel + 1) ≤ n
    · exact ⟨fuel + 1, Nat.le_refl _, .inr hlo, h⟩
    · obtain ⟨k, hk, h1, h2⟩ := ih (Nat.lt_of_not_le hlo)
      exact ⟨k, Nat.le_succ_of_le hk, h1, h2⟩

/-- the number `readDigits` arrives at from `v` over the digits `ds` -/
def dval (v : Nat) (ds : Bytes) : Nat := ds.foldl (fun a d => a * 10 + (d - 48)) v

theorem mod_pow_succ (a k : Nat) : a % 10 ^ (k + 1) = a % 10 + 10 * (a / 10 % 10 ^ k) := by
  rw [Nat.pow_succ', Nat.mod_mul]

theorem isDigit_fixedDec (k n : Nat) : ∀ d ∈ fixedDec k n, isDigit d = true := by
  induction k generalizing n with
  | zero => simp [fixedDec]
  | succ k ih =>
    have : n % 10 < 10 := Nat.mod_lt _ (by decide)
    exact List.forall_mem_append.mpr ⟨ih _, List.forall_mem_singleton.mpr (by simp [isDigit]; omega)⟩

theorem dval_fixedDec (k n v : Nat) : dval v (fixedDec k n) = v * 10 ^ k + n % 10 ^ k := by
  induction k generalizing n with
  | zero => simp [fixedDec, dval, Nat.mod_one]
  | succ k ih =>
    specialize ih (n / 10)
    unfold dval at ih ⊢
    rw [fixedDec, List.foldl_append, ih, mod_pow_succ, Nat.pow_succ']
    simp only [List.foldl_cons, List.foldl_nil, Nat.add_sub_cancel_left]
    generalize 10 ^ k = p
    generalize n / 10 % p = r
    -- bring the products `v * p * 10` and `r * 10` to the shape they have on the right: then they are the same atoms for `omega`
    rw [Nat.add_mul, Nat.mul_assoc, Nat.mul_comm p 10, Nat.mul_comm r 10]; omega

theorem readDigits_append (ds rest : Bytes) (v : Nat) (hd : ∀ d ∈ ds, isDigit d = true)
    (hr : ∀ b ∈ rest.head?, isDigit b = false) : readDigits (ds ++ rest) v = (dval v ds, rest) := by
  induction ds generalizing v with
  | nil =>
    cases rest with
    | nil => rfl
    | cons b r => simp [readDigits, dval, hr b rfl]
  | cons d ds ih =>
    obtain ⟨h, hds⟩ := List.forall_mem_cons.mp hd
    simp only [List.cons_append, readDigits, h, if_true]
    exact ih _ hds

theorem readDec_append {ds rest : Bytes} (hne : ds ≠ []) (hd : ∀ d ∈ ds, isDigit d = true)
    (hr : ∀ b ∈ rest.head?, isDigit b = false) : readDec (ds ++ rest) = some (dval 0 ds, rest) := by
  cases ds with
  | nil => exact absurd rfl hne
  | cons d ds =>
    show (if isDigit d = true then _ else _) = _
    rw [if_pos (hd d List.mem_cons_self)]
    exact congrArg some (readDigits_append (d :: ds) rest 0 hd hr)

/-- The rest has the shape `(c :: lit) ++ more` because in `decodeMeta_encodeMeta` the next literal `c :: lit` has to stay in
    one piece for `dropPrefix_append`. -/
theorem readDec_encDec (n : Nat) (h : n < 2 ^ 64) (c : Nat) (hc : isDigit c = false) (lit more : Bytes) :
    readDec (encDec n ++ (c :: lit ++ more)) = some (n, c :: lit ++ more) := by
  obtain ⟨k, hk, h1, h2⟩ := width_exists 19 n (Nat.lt_of_lt_of_le h (by decide))
  have hr : ∀ b ∈ (c :: lit ++ more).head?, isDigit b = false := fun b hb => Option.some.inj hb ▸ hc
  rw [encDec, decAux_fixedDec k 19 n [] hk h1 h2, List.append_nil,
    readDec_append (List.ne_nil_of_length_pos (by rw [fixedDec_length]; omega)) (isDigit_fixedDec _ n) hr,
    dval_fixedDec, Nat.zero_mul, Nat.zero_add, Nat.mod_eq_of_lt h2]

theorem b64_table : ∀ i, i < 64 → b64val (b64char i) = some i ∧ b64char i ≠ 34 ∧ b64char i ≠ 61 := by decide +kernel

theorem b64val_char {i : Nat} (h : i < 64) : b64val (b64char i) = some i := (b64_table i h).1
theorem b64char_ne_quote {i : Nat} (h : i < 64) : b64char i ≠ 34 := (b64_table i h).2.1
theorem b64char_ne_pad {i : Nat} (h : i < 64) : b64char i ≠ 61 := (b64_table i h).2.2

theorem pack_lt {x y n m : Nat} (hx : x < n) (hy : y < m) : x * m + y < n * m :=
  calc x * m + y < x * m + m := Nat.add_lt_add_left hy _
    _ = (x + 1) * m := (Nat.succ_mul x m).symm
    _ ≤ n * m := Nat.mul_le_mul_right m hx

theorem unpack {y m : Nat} (x : Nat) (hy : y < m) : (x * m + y) / m = x ∧ (x * m + y) % m = y := by
  rw [Nat.mul_comm, Nat.mul_add_div (Nat.zero_lt_of_lt hy), Nat.mul_add_mod, Nat.div_eq_of_lt hy, Nat.mod_eq_of_lt hy]
  exact ⟨rfl, rfl⟩

/-- the four sextets of three bytes, and the bytes again -/
theorem sextets (a b c : Nat) (ha : a < 256) (hb : b < 256) (hc : c < 256) :
    (a / 4 < 64 ∧ a % 4 * 16 + b / 16 < 64 ∧ b % 16 * 4 + c / 64 < 64 ∧ c % 64 < 64) ∧
    a / 4 * 4 + (a % 4 * 16 + b / 16) / 16 = a ∧
    (a % 4 * 16 + b / 16) % 16 * 16 + (b % 16 * 4 + c / 64) / 4 = b ∧
    (b % 16 * 4 + c / 64) % 4 * 64 + c % 64 = c := by
  have hb1 : b / 16 < 16 := Nat.div_lt_of_lt_mul hb
  have hc1 : c / 64 < 4 := Nat.div_lt_of_lt_mul hc
  have a0 : a % 4 < 4 := Nat.mod_lt _ (by decide)
  have b0 : b % 16 < 16 := Nat.mod_lt _ (by decide)
  rw [(unpack (a % 4) hb1).1, (unpack (a % 4) hb1).2, (unpack (b % 16) hc1).1, (unpack (b % 16) hc1).2]
  exact ⟨⟨Nat.div_lt_of_lt_mul ha, pack_lt a0 hb1, pack_lt b0 hc1, Nat.mod_lt _ (by decide)⟩,
    Nat.div_add_mod' a 4, Nat.div_add_mod' b 16, Nat.div_add_mod' c 64⟩

/-- In each case: the sextets of the group are in range (`sextets`), so the table decides every branch of
    `b64dec`, and the bytes it reassembles are the ones that were split. A one- or two-byte tail is a group
    whose missing bytes are 0. -/
theorem b64dec_enc (bs : List Nat) (fuel : Nat) (rest : List Nat) (hb : ∀ b ∈ bs, b < 256) (hf : bs.length < fuel) :
    b64dec fuel (b64enc bs ++ 34 :: rest) = some (bs, 34 :: rest) := by
  induction fuel generalizing bs with
  | zero => exact absurd hf (Nat.not_lt_zero _)
  | succ fuel ih =>
    match bs with
    | [] => rfl
    | [a] =>
      simp only [List.forall_mem_cons] at hb
      obtain ⟨⟨hp, hq, _, _⟩, ea, _, _⟩ := sextets a 0 0 hb.1 (by decide) (by decide)
      rw [Nat.zero_div, Nat.add_zero] at hq ea
      simp only [b64enc, List.cons_append, List.nil_append, b64dec, b64char_ne_quote hp, if_false, b64val_char hp,
        b64val_char hq, and_self, if_true, Nat.mul_mod_left, ea]
    | [a, b] =>
      simp only [List.forall_mem_cons] at hb
      obtain ⟨⟨hp, hq, hr, _⟩, ea, eb, _⟩ := sextets a b 0 hb.1 hb.2.1 (by decide)
      rw [Nat.zero_div, Nat.add_zero] at hr eb
      simp only [b64enc, List.cons_append, List.nil_append, b64dec, b64char_ne_quote hp, if_false, b64val_char hp,
        b64val_char hq, b64val_char hr, b64char_ne_pad hr, false_and, if_true, Nat.mul_mod_left, ea, eb]
    | a :: b :: c :: bs =>
      simp only [List.forall_mem_cons] at hb
      obtain ⟨⟨hp, hq, hr, ht⟩, ea, eb, ec⟩ := sextets a b c hb.1 hb.2.1 hb.2.2.1
      simp only [b64enc, List.cons_append, b64dec, b64char_ne_quote hp, if_false, b64val_char hp, b64val_char hq,
        b64val_char hr, b64val_char ht, b64char_ne_pad hr, b64char_ne_pad ht, false_and, ea, eb, ec,
        ih bs hb.2.2.2 (by simp only [List.length_cons] at hf; omega)]

theorem b64enc_length_ge (bs : List Nat) : bs.length ≤ (b64enc bs).length := by
  induction bs using b64enc.induct with
  | case1 | case2 | case3 => simp [b64enc]
  | case4 a b c bs ih => simp only [b64enc, List.length_cons]; omega

theorem dropPrefix_append (p rest : Bytes) : dropPrefix p (p ++ rest) = some rest := by
  unfold dropPrefix
  simp

/-- What the parser needs to know of the file's literal pieces, evaluated once. `k2` and `k3` come as `44 :: r` with `r` a
    variable: in `decodeMeta_encodeMeta` the kernel, confirming a reduced `match`, evaluates the next `dropPrefix k _` as far
    as it can, and on the string literal that is the whole comparison. -/
theorem literals : (∃ r, k2 = 44 :: r) ∧ (∃ r, k3 = 44 :: r) ∧ str "null" ++ [125] = str "null}" ∧
    (str "null}").head? = some 110 :=
  ⟨List.head?_eq_some_iff.mp (by decide +kernel), List.head?_eq_some_iff.mp (by decide +kernel), by decide, by decide⟩

def SnapMeta.Valid (m : SnapMeta) : Prop :=
  m.index < 2 ^ 64 ∧ m.term < 2 ^ 64 ∧ ∀ c, m.config = some c → ∀ b ∈ c, b < 256

theorem decodeMeta_encodeMeta (m : SnapMeta) (h : m.Valid) : decodeMeta (encodeMeta m) = some m := by
  obtain ⟨i, t, cfg⟩ := m
  obtain ⟨hi, ht, hc⟩ := h
  obtain ⟨⟨p2, e2⟩, ⟨p3, e3⟩, lnull, lhead⟩ := literals
  rw [decodeMeta, encodeMeta, e2, e3]
  simp only [List.append_assoc, dropPrefix_append, readDec_encDec i hi 44 rfl, readDec_encDec t ht 44 rfl]
  cases cfg with
  | none => simp only [lnull, if_true]
  | some c =>
    have hne : ¬ (34 :: (b64enc c ++ [34, 125]) = str "null}") := fun h => by
      simpa [lhead] using congrArg List.head? h
    have hlen := b64enc_length_ge c
    simp only [List.append_assoc, List.cons_append, List.nil_append, if_neg hne]
    rw [b64dec_enc c _ [125] (hc c rfl) (by simp only [List.length_append, List.length_cons, List.length_nil]; omega)]
    rfl

end Raft.Meta
