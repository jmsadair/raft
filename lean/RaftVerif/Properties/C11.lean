/-
  Properties/C11.lean — compaction and snapshot installation: handler level, and at the end the
  installation as a step of the replication-layer model (cluster level).

  For every node state and every InstallSnapshot request: the first locked section never
  touches the log, the commit index or the applied index; a snapshot that is not newer
  than what the node has applied or already holds changes nothing; after a restore the
  node adopts exactly the label (monotone whenever the label is not below the commit
  index, which log matching guarantees for every request a leader can send — see
  DESIGN.md section 11, entry 7); compaction at a matching boundary keeps every entry above the label,
  and a node that has compacted its log answers vote requests and AppendEntries requests (at or above
  the boundary) like a node holding the full log (`C11_compaction_invisible_to_the_vote_handler` and the
  three `C11_compacted_node_*` theorems).
  Chunk assembly is exact *provided each accepted request carries the label of the file in
  progress*; without that proviso it is FALSE of this code (known finding S20: the handler
  never compares the labels; it cannot be repaired without editing
  TestInstallSnapshotSuccess): `C11_counterexample_chunk_mixing` is the witness, replayed
  on the real code by E3-install and the E4 scenario S20.
-/
import RaftVerif.Proofs.Compaction
import RaftVerif.Proofs.RequestVote
import RaftVerif.Proofs.InstallSnapshot
import RaftVerif.Proofs.ReplSnapshot
import RaftVerif.Proofs.ReplExample
namespace Raft
open Node Log

/-- **The first section never touches log, commit index or applied index**, whatever the
    request and whatever it does to files. -/
theorem C11_first_section_keeps_log_commit_applied {n n' : Node} {now : Nat} {q : ISReq} {r : ISResp}
    {eff : List Effect} {nx : ISNext} (h : n.installA now q = some (n', r, eff, nx)) :
    n'.log = n.log ∧ n'.commitIndex = n.commitIndex ∧ n'.lastApplied = n.lastApplied := by
  obtain ⟨m, hm, he⟩ := isEnter_follows n now q
  cases installA_cases h with
  | stale => exact ⟨rfl, rfl, rfl⟩
  | nothingNew | files => rw [he]; exact ⟨hm.log, hm.commitIndex, hm.lastApplied⟩

/-- **Never install what is not newer.** A snapshot whose label is not above the node's
    applied index or its current boundary is answered at once and leaves the boundary, the log,
    the visible snapshots, the applied and the commit index as they are. (Term and contact
    bookkeeping still run; the effects are not constrained.) -/
theorem C11_not_newer_changes_nothing {n n' : Node} {now : Nat} {q : ISReq} {r : ISResp} {eff : List Effect} {nx : ISNext}
    (h : n.installA now q = some (n', r, eff, nx)) (hold : n.snapIndex ≥ q.lastIndex ∨ n.lastApplied ≥ q.lastIndex) :
    nx = .reply ∧ n'.log = n.log ∧ n'.snapIndex = n.snapIndex ∧ n'.snapTerm = n.snapTerm ∧ n'.snaps = n.snaps ∧
    n'.lastApplied = n.lastApplied ∧ n'.commitIndex = n.commitIndex := by
  obtain ⟨m, hm, he⟩ := isEnter_follows n now q
  cases installA_cases h with
  | stale => exact ⟨rfl, rfl, rfl, rfl, rfl, rfl, rfl⟩
  | nothingNew => rw [he]; exact ⟨rfl, hm.log, hm.snapIndex, hm.snapTerm, hm.snaps, hm.lastApplied, hm.commitIndex⟩
  | files _ hnew => rw [he] at hnew; exact absurd (by rwa [← hm.snapIndex, ← hm.lastApplied] at hold) hnew

/-- **After the restore the node stands exactly at the label.** Monotone whenever the label
    is not below the commit index (true of every request a leader can send: a conflicting
    boundary at or below the commit index would contradict log matching). -/
theorem C11_restore_adopts_label (n : Node) (now : Nat) (q : ISReq) (hs : n.role ≠ .shutdown) :
    (n.installC now q).1.lastApplied = q.lastIndex ∧ (n.installC now q).1.commitIndex = q.lastIndex ∧
    (n.installC now q).1.log = n.log.discard q.lastIndex q.lastTerm ∧
    (n.commitIndex ≤ q.lastIndex → n.commitIndex ≤ (n.installC now q).1.commitIndex) ∧
    (n.lastApplied ≤ q.lastIndex → n.lastApplied ≤ (n.installC now q).1.lastApplied) := by
  unfold installC
  rw [if_neg hs]
  obtain ⟨k, hk⟩ := applyConfiguration_node
    { n with lastApplied := q.lastIndex, commitIndex := q.lastIndex, log := n.log.discard q.lastIndex q.lastTerm } now q.config
  simp only []
  rw [hk]
  exact ⟨rfl, rfl, rfl, id, id⟩

/-- **Compaction keeps the suffix.** Compacting a well-formed log at a contained index
    keeps every entry above it, and the last index. -/
theorem C11_compact_keeps_suffix {l l' : Log} {i : Nat} (hw : l.WF) (hc : l.compact i = some l') :
    l'.base = i ∧ (∀ j, i < j → l'.get? j = l.get? j) ∧ l'.lastIndex = l.lastIndex ∧ l'.WF :=
  have h := compact_compacted hw hc
  ⟨h.base, fun _ hj => h.get? hj, (h.lastIndex hw).1, (h.lastIndex hw).2⟩

/-- **A compacted node votes exactly as a node holding the full log.** For every node state,
    every compaction index the log contains and every vote request (real or prevote): the
    answer, the storage effects and the resulting state are those of the node with the full
    log — only the log differs, and it is the compacted one. -/
theorem C11_compaction_invisible_to_the_vote_handler (n : Node) (l' : Log) (i now : Nat) (q : RVReq)
    (hw : n.log.WF) (hc : n.log.compact i = some l') :
    requestVote { n with log := l' } now q =
      (requestVote n now q).map (fun r => ({ r.1 with log := l' }, r.2.1, r.2.2)) :=
  requestVote_log_irrelevant n l' now q (C11_compact_keeps_suffix hw hc).2.2.1 (compact_lastTerm hc)

/-- **A compacted node makes the same previous-entry decisions as a node holding the full log.**
    `n` is any node whose log starts at its snapshot boundary; it compacts at a contained index `i`
    (what the end of a local snapshot does: log, boundary index and boundary term move together).
    For every AppendEntries request whose previous index is not below `i`, the previous-entry
    check accepts after the compaction exactly when it accepted before. (Rejections may carry a
    different hint: the conflict scan stops at the boundary. Requests with a previous index below
    `i` are answered "send from the boundary": the entries they ask about are in the snapshot.) -/
theorem C11_compacted_node_makes_the_same_prev_entry_decisions (n : Node) (l' : Log) (i : Nat) (q : AEReq)
    (hw : n.log.WF) (hb : n.log.base = n.snapIndex) (hc : n.log.compact i = some l') (hp : i ≤ q.prevIndex) :
    (aePrevCheck { n with log := l', snapIndex := i, snapTerm := l'.baseTerm } q = .ok ↔ aePrevCheck n q = .ok) := by
  obtain ⟨_, hsuf, hlast, _⟩ := C11_compact_keeps_suffix hw hc
  obtain ⟨hci, _, e, _, hge, hl'⟩ := of_compact_eq_some hc
  have hbt : l'.baseTerm = e.term := by rw [hl']
  rw [aePrevCheck_ok_iff, aePrevCheck_ok_iff]
  show i ≤ q.prevIndex ∧ q.prevIndex ≤ l'.lastIndex ∧
      (i < q.prevIndex → ∃ pe, l'.get? q.prevIndex = some pe ∧ pe.term = q.prevTerm) ∧
      (i = q.prevIndex → l'.baseTerm = q.prevTerm) ↔ _
  rw [hlast, hbt]
  -- on the full log the boundary `snapIndex = base` lies below `i ≤ prevIndex`: only the entry test counts
  have hlt : n.snapIndex < q.prevIndex := hb ▸ Nat.lt_of_lt_of_le hci hp
  refine and_congr ⟨fun _ => Nat.le_of_lt hlt, fun _ => hp⟩
    (and_congr_right fun _ => ⟨fun h => ⟨fun _ => ?_, fun h' => absurd h' (Nat.ne_of_lt hlt)⟩, fun h => ?_⟩)
  · rcases Nat.lt_or_eq_of_le hp with hlt | heq
    · rw [← hsuf _ hlt]; exact h.1 hlt
    · exact ⟨e, by rw [← heq]; exact hge, h.2 heq⟩
  · obtain ⟨pe, hpe, hpt⟩ := h.1 hlt
    refine ⟨fun hlt => ⟨pe, by rw [hsuf _ hlt]; exact hpe, hpt⟩, fun heq => ?_⟩
    rw [← heq, hge] at hpe; cases hpe; exact hpt

/-- non-vacuity: a three-entry log compacted at 2; a request with previous entry (2, term 1) -/
example : ({ base := 0, baseTerm := 0, ents := [⟨1, 1, 1, 11, none⟩, ⟨2, 1, 1, 12, none⟩, ⟨3, 2, 1, 13, none⟩] } : Log).compact 2 =
    some { base := 2, baseTerm := 1, ents := [⟨3, 2, 1, 13, none⟩] } := by decide

/-- **A compacted node runs the merge loop and the accepting part of AppendEntries like a node
    holding the full log.** For every node state, every compaction index the log contains and every
    request whose entries lie above it: the accepting part has the same effects and leaves the same
    state; the resulting log is the full-log node's resulting log with the same prefix cut away.
    With `C11_compacted_node_makes_the_same_prev_entry_decisions` (the request is accepted by the
    one exactly when by the other) this is the handler's whole dependence on the log. -/
theorem C11_compacted_node_accepts_like_the_full_log (n : Node) (l' : Log) (i now : Nat) (q : AEReq)
    (hw : n.log.WF) (hc : n.log.compact i = some l') (hall : ∀ e ∈ q.entries, i < e.index) :
    ∃ L', aeAccept { n with log := l', snapIndex := i, snapTerm := l'.baseTerm } now q =
        ({ (aeAccept n now q).1 with log := L', snapIndex := i, snapTerm := l'.baseTerm }, (aeAccept n now q).2) ∧
      Compacted (aeAccept n now q).1.log L' i l'.baseTerm :=
  aeAccept_compacted n l' i l'.baseTerm now q hw (compact_compacted hw hc) hall

/-- **A compacted node accepts exactly the AppendEntries requests a node holding the full log
    accepts**, and answers with the same term. -/
theorem C11_compacted_node_accepts_exactly_the_same_requests (n : Node) (l' : Log) (i now : Nat) (q : AEReq)
    (hw : n.log.WF) (hb : n.log.base = n.snapIndex) (hc : n.log.compact i = some l') (hp : i ≤ q.prevIndex) :
    (appendEntries { n with log := l', snapIndex := i, snapTerm := l'.baseTerm } now q).map (fun r => (r.2.1.success, r.2.1.term)) =
      (appendEntries n now q).map (fun r => (r.2.1.success, r.2.1.term)) := by
  have hf := aeEnter_follows n now q
  have key := C11_compacted_node_makes_the_same_prev_entry_decisions (aeEnter n now q).1 l' i q
    (by rw [hf.log]; exact hw) (by rw [hf.log, hf.snapIndex]; exact hb) (by rw [hf.log]; exact hc) hp
  rw [appendEntries_reply, appendEntries_reply, aeEnter_with3]
  exact congrArg (fun b => if n.role = .shutdown then none else if q.term < n.term then some (false, n.term)
    else some (b, q.term)) (decide_eq_decide.mpr key)

/-- A file in progress is *honest* w.r.t. the snapshots `S` the senders hold when it is a
    prefix of the snapshot its own label names. -/
def RecvHonest (S : Nat → Nat → List Nat) (f : RecvSnap) : Prop :=
  f.written = f.data.length ∧ f.data = (S f.index f.term).take f.written

/-- **Chunks assemble exactly — under the label proviso.** If the file in progress is
    honest, the request's bytes are the slice of the snapshot named by the request's own
    label at the request's offset, and the request carries the label of the file in
    progress, then the file with the request's bytes appended (the update `installA` writes; the statement
    does not mention the handler) is honest again; so every file the handler closes is a prefix of
    the snapshot of its label (the whole of it when the sender's `Done` is truthful). -/
theorem C11_chunks_exact_partial (S : Nat → Nat → List Nat) (f : RecvSnap) (q : ISReq)
    (hf : RecvHonest S f) (hl : f.index = q.lastIndex ∧ f.term = q.lastTerm) (ho : q.offset = f.written)
    (hd : q.data = ((S q.lastIndex q.lastTerm).drop q.offset).take q.data.length) :
    RecvHonest S { f with written := f.written + q.data.length, data := f.data ++ q.data } := by
  obtain ⟨h1, h2⟩ := hf
  refine ⟨by simp [h1], ?_⟩
  simp only
  rw [hl.1, hl.2] at h2
  rw [hl.1, hl.2, List.take_add, ← h2, ← ho, ← hd]

/-- the witness state and requests of S20 -/
def exS20 : Node := { id := 1, term := 2, config := ⟨1, [(1, true), (2, true)]⟩, committed := some ⟨1, [(1, true), (2, true)]⟩ }
def exS20a : ISReq := { leaderId := 2, term := 2, lastIndex := 20, lastTerm := 2, config := ⟨1, [(1, true), (2, true)]⟩, offset := 0, data := [66, 66, 66, 66], isDone := false }
def exS20b : ISReq := { leaderId := 2, term := 2, lastIndex := 10, lastTerm := 1, config := ⟨1, [(1, true), (2, true)]⟩, offset := 4, data := [], isDone := true }

/-- **Witness of the known finding S20**: chunk 0 of snapshot (20, t2), then a late empty
    last chunk of the older snapshot (10, t1) at the coinciding offset: the file labelled 20
    is closed and becomes visible with the bytes of an unfinished transfer, and the node
    adopts boundary 10. -/
theorem C11_counterexample_chunk_mixing :
    ∃ n1 r1 e1 x1 n2 r2 e2 x2,
      exS20.installA 0 exS20a = some (n1, r1, e1, x1) ∧ n1.installA 1 exS20b = some (n2, r2, e2, x2) ∧
      n2.snaps = [{ index := 20, term := 2, data := [66, 66, 66, 66] }] ∧ n2.snapIndex = 10 := by
  refine ⟨_, _, _, _, _, _, _, _, rfl, rfl, by decide, by decide⟩

/-! ### Cluster level (Proofs/ReplSnapshot.lean)

    In the replication-layer model logs are whole (a compaction only drops what the snapshot
    stands for: C10). Installing the snapshot (i, log of the leader up to i) — keep the log if
    it holds the snapshot's last entry, otherwise discard it and continue from the snapshot —
    is, under log matching, exactly what the replication request "previous index 0, entries
    1..i" does. So an installation neither loses nor resurrects anything the safety theorems
    speak about: the state after it is a reachable state of the model of C01/C04/C06/C07. -/

/-- **An installation is a replication step of the safety model.** -/
theorem C11_install_is_replication {cfg : Config} (hnd : cfg.voterIds.Nodup) {s : Repl.AState} (hr : Repl.Reachable cfg s)
    (l n i stamp : Nat) (hl : (s.nodes l).role = .leader) (hi : i ≤ (s.nodes l).commit) (hn : n ≠ l)
    (ht : (s.nodes n).term ≤ (s.nodes l).term) :
    ∃ s1 s2, Repl.Step cfg s s1 ∧ Repl.Step cfg s1 s2 ∧
      (s2.nodes n).log = Repl.installLog (s.nodes n).log (s.nodes l).log i ∧
      (s2.nodes n).commit = max (s.nodes n).commit i ∧
      (s2.nodes n).term = (s.nodes l).term ∧ (∀ j, j ≠ n → s2.nodes j = s.nodes j) :=
  Repl.install_snapshot_simulated hnd hr l n i stamp hl hi hn ht

/-- **No committed state is lost, none is resurrected**: after an installation, in every later
    state, the applied prefixes of any two nodes (the installing one included) are comparable,
    and the installed node's log starts with the snapshot's prefix. -/
theorem C11_install_preserves_safety {cfg : Config} (hnd : cfg.voterIds.Nodup) {s : Repl.AState} (hr : Repl.Reachable cfg s)
    (l n i stamp : Nat) (hl : (s.nodes l).role = .leader) (hi : i ≤ (s.nodes l).commit) (hn : n ≠ l)
    (ht : (s.nodes n).term ≤ (s.nodes l).term) :
    ∃ s2, Repl.ReachableFrom cfg s s2 ∧
      (s2.nodes n).log = Repl.installLog (s.nodes n).log (s.nodes l).log i ∧
      (s2.nodes n).log.take i = (s.nodes l).log.take i ∧
      (s2.nodes n).commit = max (s.nodes n).commit i ∧
      ∀ s3, Repl.ReachableFrom cfg s2 s3 → ∀ a b,
        (s2.nodes a).log.take (s2.nodes a).commit <+: (s3.nodes b).log.take (s3.nodes b).commit ∨
        (s3.nodes b).log.take (s3.nodes b).commit <+: (s2.nodes a).log.take (s2.nodes a).commit := by
  obtain ⟨s2, hr2, hf2, hlog, hcom⟩ := Repl.install_snapshot_reachable hnd hr l n i stamp hl hi hn ht
  have hinv := Repl.inv_reachable hnd hr
  have hig : i ≤ (s.nodes l).log.length := Nat.le_trans hi (hinv.commit_ok l).1
  refine ⟨s2, hf2, hlog, ?_, hcom, fun s3 h3 a b => Repl.state_machine_safety hnd hr2 h3 a b⟩
  rw [hlog]
  exact Repl.installLog_prefix _ _ _ hig (hinv.log_matching n l)

/-- Non-vacuity: in the example run (Proofs/ReplExample.lean) node 3 has an empty log while
    the leader has committed two entries; the installation hands it exactly those. -/
example : ∃ s2, Repl.ReachableFrom Repl.cfg3 Repl.s7 s2 ∧ (s2.nodes 3).log = [⟨1, 0⟩, ⟨1, 42⟩] ∧ (s2.nodes 3).commit = 2 := by
  obtain ⟨s2, hf, hlog, _, hcom, _⟩ := C11_install_preserves_safety Repl.cfg3_nodup Repl.s7_reachable 1 3 2 0
    (by decide) (by decide) (by decide) (by decide)
  refine ⟨s2, hf, ?_, ?_⟩
  · rw [hlog]; decide
  · rw [hcom]; decide

end Raft
