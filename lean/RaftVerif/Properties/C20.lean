/-
  Properties/C20.lean — lock discipline of the node, over the skeleton REGENERATED from the
  source on every run (Generated/Tables.lean, by harness/cmd/extract: a flow-sensitive walk of
  every method of *Raft that derives, for each access to a field of the node, whether the node
  mutex is held there).

  Proved here, by evaluation of the whole table in the kernel:
  * every access to a field outside a short list of components is made with the mutex held;
  * the components on that list are never assigned after `NewRaft` (immutable configuration,
    or objects that synchronise themselves: logger, wait group, condition variables, the two
    mutexes; and the user-supplied transport and state machine, whose concurrency contract is
    the interface's);
  * the walk determined the lock state everywhere (no anomaly, every method reached);
  * the fields of a log entry that requests in flight read without the mutex are never
    assigned after the entry was created.
  Proofs/Lockset.lean turns the first item into the absence of a race between any two such
  accesses (release→acquire ordering).

  PARTIAL: objects reached through a local alias (a `*follower`, a `*LogEntry`, the operation
  manager's maps) are covered only as far as the alias is used in the locked region the walk
  sees; the storages' own internals, the transport and what the state machine does are outside.
  The search for a concrete racing schedule is E6 (race detector on stress runs).
-/
import RaftVerif.Generated.Tables
import RaftVerif.Proofs.Lockset
namespace Raft
open Gen

/-- may be used without the node mutex -/
def unguardedOK : List String :=
  ["id", "address", "options", "logger", "transport", "fsm", "applyCond", "commitCond", "readOnlyCond",
   "electionCond", "snapshotCond", "wg", "mu", "lifecycleMu"]

/-- **Every access to protocol state holds the node mutex.** -/
theorem C20_every_guarded_access_holds_the_mutex :
    ∀ a ∈ accesses, a.held = false → a.field ∈ unguardedOK := by decide +kernel

/-- **What is used without the mutex is never assigned after construction.** -/
theorem C20_unguarded_never_assigned :
    ∀ a ∈ accesses, a.field ∈ unguardedOK → a.kind ≠ 2 := by
  -- contrapositive: the costly string test is evaluated on the assignments only
  have h : ∀ a ∈ accesses, a.kind = 2 → a.field ∉ unguardedOK := by decide +kernel
  exact fun a ha hf hk => h a ha hk hf

/-- **The walk is complete**: the lock state was determined at every statement of every method,
    and every method is reached from an exported method or a `go` statement. -/
theorem C20_walk_complete : lockAnomalies = [] ∧ unreached = [] := by decide +kernel

/-- **Entries shared with requests in flight are immutable where they are read**: the
    converters of requests.go / transport.go read no field that is assigned after creation. -/
theorem C20_entries_in_flight_immutable :
    ∀ f ∈ entryFieldsReadUnlocked, f ∉ entryFieldsWritten := by decide +kernel

/-- **No race between two accesses under the mutex** (from Proofs/Lockset.lean): in any
    well-locked trace, an access by `t1` under the mutex and a later access by `t2 ≠ t1`
    under the mutex are separated by `rel t1 … acq t2`. -/
theorem C20_locked_accesses_ordered (earlier later : List Lockset.Ev) (t1 t2 : Nat) (hne : t1 ≠ t2)
    (h1 : Lockset.holder earlier = some t1) (hw : Lockset.WellLocked (later ++ earlier))
    (h2 : Lockset.holder (later ++ earlier) = some t2) :
    ∃ l1 l2 l3, later = l1 ++ [Lockset.Ev.acq t2] ++ l2 ++ [Lockset.Ev.rel t1] ++ l3 :=
  Lockset.release_acquire_between earlier t1 t2 hne h1 later hw h2

/-- non-vacuity: the table is not empty and contains both locked accesses and exempt ones -/
example : accesses.length > 100 ∧ (accesses.filter (·.held)).length > 100 ∧ (accesses.filter (fun a => !a.held)).length > 5 := by
  decide +kernel

end Raft
