/-
  Proofs/LogLemmas.lean — the in-memory log: contiguity and well-formedness, and `get?` as a list lookup
  (`get?_eq`), through which `append`, `truncate` and `compact` are read.
-/
import RaftVerif.Model.Log
namespace Raft
namespace Log

theorem contig_getElem {b : Nat} {es : List Entry} (h : Contig b es) :
    ∀ (k : Nat) (hk : k < es.length), (es[k]'hk).index = b + k + 1 := by
  induction es generalizing b with
  | nil => intro k hk; simp at hk
  | cons e es ih =>
    intro k hk
    obtain ⟨h1, h2⟩ := h
    cases k with
    | zero => simp [h1]
    | succ k =>
      rw [List.getElem_cons_succ, ih h2 k (Nat.lt_of_succ_lt_succ hk), Nat.add_assoc b 1 k, Nat.add_comm 1 k]

theorem contig_append {b : Nat} {xs ys : List Entry} :
    Contig b (xs ++ ys) ↔ Contig b xs ∧ Contig (b + xs.length) ys := by
  induction xs generalizing b with
  | nil => simp [Contig]
  | cons x xs ih =>
    simp only [List.cons_append, Contig, List.length_cons]
    rw [ih, and_assoc, Nat.add_assoc b 1, Nat.add_comm 1]

theorem contig_take {b : Nat} {es : List Entry} (h : Contig b es) (k : Nat) : Contig b (es.take k) := by
  have : Contig b (es.take k ++ es.drop k) := by rwa [List.take_append_drop]
  exact (contig_append.mp this).1

theorem contig_drop {b : Nat} {es : List Entry} (h : Contig b es) (k : Nat) (hk : k ≤ es.length) :
    Contig (b + k) (es.drop k) := by
  have : Contig b (es.take k ++ es.drop k) := by rwa [List.take_append_drop]
  have h2 := (contig_append.mp this).2
  rwa [List.length_take, Nat.min_eq_left hk] at h2

theorem contig_getLast {b : Nat} {es : List Entry} (h : Contig b es) (e : Entry)
    (hl : es.getLast? = some e) : e.index = b + es.length := by
  rw [List.getLast?_eq_getElem?] at hl
  obtain ⟨hk, rfl⟩ := List.getElem?_eq_some_iff.mp hl
  rw [contig_getElem h _ hk, Nat.add_assoc, Nat.sub_add_cancel (Nat.zero_lt_of_lt hk)]

theorem wf_lastIndex {l : Log} (h : l.WF) : l.lastIndex = l.base + l.ents.length := by
  unfold lastIndex
  cases hl : l.ents.getLast? with
  | none => simp [List.getLast?_eq_none_iff.mp hl]
  | some e => simpa using contig_getLast h e hl

theorem contains_iff {l : Log} {i : Nat} : l.contains i = true ↔ l.base < i ∧ i ≤ l.base + l.ents.length := by
  unfold contains; rw [Bool.and_eq_true, decide_eq_true_eq, decide_eq_true_eq, Nat.sub_le_iff_le_add']

theorem wf_contains_iff {l : Log} (h : l.WF) {i : Nat} : l.contains i = true ↔ l.base < i ∧ i ≤ l.lastIndex := by
  rw [contains_iff, wf_lastIndex h]

/-- `GetEntry` is a lookup in the stored entries: above the base the upper bound test of `contains` is the
    lookup's own. -/
theorem get?_eq (l : Log) (i : Nat) : l.get? i = if l.base < i then l.ents[i - l.base - 1]? else none := by
  unfold get?
  by_cases hc : l.contains i = true
  · rw [if_pos hc, if_pos (contains_iff.mp hc).1]
  · rw [if_neg hc]
    split
    · exact (List.getElem?_eq_none (by have := mt contains_iff.mpr hc; omega)).symm
    · rfl

theorem get?_eq_some_iff {l : Log} {i : Nat} {e : Entry} :
    l.get? i = some e ↔ l.contains i = true ∧ l.ents[i - l.base - 1]? = some e := by
  unfold get?
  by_cases hc : l.contains i = true
  · rw [if_pos hc]; exact (and_iff_right hc).symm
  · rw [if_neg hc]; exact ⟨nofun, fun h => absurd h.1 hc⟩

theorem get?_some_of_contains {l : Log} {i : Nat} (h : l.contains i = true) : ∃ e, l.get? i = some e := by
  have := contains_iff.mp h
  rw [get?_eq, if_pos this.1, List.getElem?_eq_getElem (by omega)]; exact ⟨_, rfl⟩

theorem wf_get?_some {l : Log} (h : l.WF) {i : Nat} (h1 : l.base < i) (h2 : i ≤ l.lastIndex) : ∃ e, l.get? i = some e :=
  get?_some_of_contains ((wf_contains_iff h).mpr ⟨h1, h2⟩)

theorem wf_get?_index {l : Log} (h : l.WF) {i : Nat} {e : Entry} (hg : l.get? i = some e) : e.index = i := by
  obtain ⟨hc, he⟩ := get?_eq_some_iff.mp hg
  have hb := contains_iff.mp hc
  obtain ⟨hk, rfl⟩ := List.getElem?_eq_some_iff.mp he
  rw [contig_getElem h _ hk]; omega

@[simp] theorem append_base (l : Log) (es : List Entry) : (l.append es).base = l.base := rfl
@[simp] theorem append_baseTerm (l : Log) (es : List Entry) : (l.append es).baseTerm = l.baseTerm := rfl
@[simp] theorem append_ents (l : Log) (es : List Entry) : (l.append es).ents = l.ents ++ es := rfl
@[simp] theorem append_nil (l : Log) : l.append [] = l := by simp [append]

theorem wf_append {l : Log} {es : List Entry} (h : l.WF) (hc : Contig l.lastIndex es) : (l.append es).WF := by
  unfold WF; simp only [append_base, append_ents]
  rw [contig_append]; exact ⟨h, by rwa [← wf_lastIndex h]⟩

theorem get?_append_le {l : Log} {es : List Entry} {i : Nat} (hi : i ≤ l.base + l.ents.length) :
    (l.append es).get? i = l.get? i := by
  rw [get?_eq, get?_eq, append_base, append_ents]
  split
  · exact List.getElem?_append_left (by omega)
  · rfl

theorem get?_append_left {l : Log} {es : List Entry} {i : Nat} (h : l.contains i = true) :
    (l.append es).get? i = l.get? i :=
  get?_append_le (contains_iff.mp h).2

theorem truncate_eq_some {l : Log} {i : Nat} (h : l.contains i = true) :
    l.truncate i = some { l with ents := l.ents.take (i - l.base - 1) } :=
  if_pos h

theorem of_truncate_eq_some {l l' : Log} {i : Nat} (ht : l.truncate i = some l') :
    l.contains i = true ∧ l' = { l with ents := l.ents.take (i - l.base - 1) } := by
  unfold truncate at ht
  split at ht
  · exact ⟨‹_›, (Option.some.inj ht).symm⟩
  · cases ht

theorem wf_discard (l : Log) (i t : Nat) : (l.discard i t).WF := trivial

theorem wf_truncate {l l' : Log} {i : Nat} (h : l.WF) (ht : l.truncate i = some l') : l'.WF := by
  obtain ⟨_, rfl⟩ := of_truncate_eq_some ht
  exact contig_take h _

theorem truncate_lastIndex {l l' : Log} {i : Nat} (h : l.WF) (ht : l.truncate i = some l') :
    l'.lastIndex = i - 1 := by
  have hw := wf_truncate h ht
  obtain ⟨hc, rfl⟩ := of_truncate_eq_some ht
  have := contains_iff.mp hc
  rw [wf_lastIndex hw]
  show l.base + (l.ents.take (i - l.base - 1)).length = i - 1
  rw [List.length_take_of_le (by omega), Nat.sub_right_comm, Nat.add_sub_of_le (Nat.le_sub_one_of_lt this.1)]

theorem get?_truncate_lt {l l' : Log} {i j : Nat} (ht : l.truncate i = some l') (hj : j < i) :
    l'.get? j = l.get? j := by
  obtain ⟨_, rfl⟩ := of_truncate_eq_some ht
  rw [get?_eq, get?_eq]
  dsimp only
  split
  · exact List.getElem?_take_of_lt (by omega)
  · rfl

theorem of_compact_eq_some {l l' : Log} {i : Nat} (hc : l.compact i = some l') :
    l.base < i ∧ i ≤ l.base + l.ents.length ∧
    ∃ e, l.ents[i - l.base - 1]? = some e ∧ l.get? i = some e ∧
      l' = { base := e.index, baseTerm := e.term, ents := l.ents.drop (i - l.base) } := by
  unfold compact at hc
  by_cases hcont : l.contains i = true
  · have hb := contains_iff.mp hcont
    rw [if_pos hcont] at hc
    cases he : l.ents[i - l.base - 1]? with
    | none => rw [he] at hc; cases hc
    | some e =>
      rw [he] at hc; cases hc
      exact ⟨hb.1, hb.2, e, rfl, by rw [get?_eq, if_pos hb.1, he], rfl⟩
  · rw [if_neg hcont] at hc; cases hc

end Log

-- The next two are `Raft.get?_append_right` and `Raft.compact_lastTerm`, not `Log.…`: the property files that state
-- them for C03 and C11 know them under these names.

open Log in
theorem get?_append_right {l : Log} (h : l.WF) {es : List Entry} (hc : Contig l.lastIndex es) :
    ∀ e ∈ es, (l.append es).get? e.index = some e := by
  intro e he
  obtain ⟨k, hk, rfl⟩ := List.getElem_of_mem he
  rw [contig_getElem hc k hk, wf_lastIndex h, get?_eq, append_base, append_ents, if_pos (by omega),
    show l.base + l.ents.length + k + 1 - l.base - 1 = l.ents.length + k by omega,
    List.getElem?_append_right (Nat.le_add_right ..), Nat.add_sub_cancel_left, List.getElem?_eq_getElem hk]

open Log in
/-- Compaction keeps the last term: the boundary entry's term becomes the base term. -/
theorem compact_lastTerm {l l' : Log} {i : Nat} (hc : l.compact i = some l') : l'.lastTerm = l.lastTerm := by
  obtain ⟨h1, h2, e, he, _, rfl⟩ := of_compact_eq_some hc
  unfold lastTerm
  dsimp only
  rw [List.getLast?_drop]
  by_cases hle : l.ents.length ≤ i - l.base
  · -- nothing is left above the boundary: its entry was the last one
    rw [if_pos hle, List.getLast?_eq_getElem?, Nat.le_antisymm hle (Nat.sub_le_iff_le_add'.mpr h2), he]
  · rw [if_neg hle]
    cases hg : l.ents.getLast? with
    | some _ => rfl
    | none => rw [List.getLast?_eq_none_iff.mp hg] at hle; exact absurd (Nat.zero_le _) hle

end Raft
