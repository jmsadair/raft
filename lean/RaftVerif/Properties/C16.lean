/-
  Properties/C16.lean — prevote and stickiness: what outsiders can and cannot do.

  Handler/section level, for every node state: a node in fresh contact with a leader (or
  a leader with a valid lease) ignores vote requests entirely; with at least two voters, a
  node never raises its term in the election loop unless it has just won a prevote (a sole
  voter does, straight from follower: C15_sole_voter_wins), and a candidate whose election
  was not decided goes back to the prevote (the `fix:` for the stale-candidate defect).
  The interval argument (no disruption while a leader keeps prompt contact with a
  majority) is proved on the timed prevote model (Proofs/Prevote.lean): no prevote round begun
  while a quorum is in contact leads to a candidacy, and without a candidacy terms are only
  copied (`C16_no_candidacy_from_rounds_begun_in_contact`, `C16_terms_only_copied`). The tie to
  the code is E4.
-/
import RaftVerif.Proofs.ElectionLemmas
import RaftVerif.Proofs.RequestVote
import RaftVerif.Proofs.Prevote
import RaftVerif.Model.Lifecycle
import RaftVerif.Proofs.ReplExample
namespace Raft
open Node

/-- **Stickiness.** While the voter heard from a leader less than an election timeout
    ago, or is a leader holding a valid lease, any vote request (real or prevote, any
    term, any log) is refused and changes nothing at all. -/
theorem C16_sticky_refuses (n : Node) (now : Nat) (q : RVReq) (hs : n.role ≠ .shutdown)
    (h : n.contactFresh now = true ∨ n.leaseValid now = true) :
    requestVote n now q = some (n, { term := n.term, granted := false }, []) := by
  rw [requestVote_eq, if_neg hs, if_pos (.inl (by rcases h with h | h <;> simp [h]))]

/-- The guard of the timed model's `grant` step, read off the handler: whoever grants a vote or a
    prevote has not heard from a leader within the election timeout (and holds no valid lease). -/
theorem C16_grant_implies_no_contact {n n' : Node} {now : Nat} {q : RVReq} {r : RVResp} {eff : List Effect}
    (h : requestVote n now q = some (n', r, eff)) (hg : r.granted = true) :
    n.contactFresh now = false ∧ n.leaseValid now = false := by
  have : (n.leaseValid now || n.contactFresh now) = false := by
    cases requestVote_cases h with
    | ignore | refuse => cases hg
    | prevote h1 | grant h1 => exact h1
  exact (Bool.or_eq_false_iff.mp this).symm

/-- **A node that has just been started counts as in contact**: `Start`/`Restart` set the contact time
    to now, so for one election timeout the node refuses every vote request and does not campaign
    (a restarted voter must not help depose a leader whose request it acknowledged just before it
    went down; the timed models of C16 and C17 rest on this: a crash may only shorten stickiness if
    the restart does not restore it). -/
theorem C16_started_node_is_in_contact (n : Node) (now : Nat) (rf st : Bool) (d : Node.Disk) (hs : n.role = .shutdown)
    (het : 0 < (n.start now rf st d).et) :
    (n.start now rf st d).lastContact = now ∧ (n.start now rf st d).contactFresh now = true := by
  have h1 : (n.start now rf st d).lastContact = now := by
    unfold Node.start
    rw [if_neg (not_not_intro hs)]
  refine ⟨h1, ?_⟩
  unfold Node.contactFresh
  rw [h1]
  exact decide_eq_true (Nat.lt_add_of_pos_right het)

/-- **Only a won prevote raises the term.** One iteration of the election loop leaves the
    term unchanged unless the node is a candidate that has just won a prevote. -/
theorem C16_term_only_after_prevote (n : Node) (now : Nat) (h2 : 2 ≤ n.config.voters)
    (h : ¬ (n.role = .candidate ∧ n.prevoteWon = true)) : (n.election now).1.term = n.term := by
  by_cases hidle : n.Idle now
  · rw [election_idle hidle]
  · rw [election_prevote hidle h, sendRVToPeers_multi (n := { n with role := .precandidate }) now
      (n.config.not_single_of_two n.id h2)]

/-- **A failed candidacy re-enters the prevote.** A candidate whose election was not
    decided (the flag of the won prevote has been consumed) becomes a pre-candidate again
    and keeps its term and vote, however often its timer fires. -/
theorem C16_failed_candidate_prevotes_again (n : Node) (now : Nat) (h2 : 2 ≤ n.config.voters)
    (hc : n.role = .candidate) (hw : n.prevoteWon = false) (hv : n.config.isVoter n.id = true)
    (hstale : n.contactFresh now = false) :
    (n.election now).1.role = .precandidate ∧ (n.election now).1.term = n.term ∧
    (n.election now).1.votedFor = n.votedFor := by
  rw [election_prevote (by simp [Idle, hc, hv, hstale]) (fun h => by rw [hw] at h; nomatch h.2),
    sendRVToPeers_multi (n := { n with role := .precandidate }) now (n.config.not_single_of_two n.id h2)]
  exact ⟨rfl, rfl, rfl⟩

/-- A prevote request carries the next term; building it (`prepareRV` returns the request only) leaves the
    pre-candidate's own term as it is. -/
theorem C16_prevote_request_term (n : Node) (peer : Nat) (q : RVReq) (h : n.prepareRV peer true = some q) :
    q.term = n.term + 1 ∧ q.prevote = true := by
  obtain ⟨_, h2, h3, _⟩ := prepareRV_some h
  exact ⟨by simpa using h3, h2⟩

/-! Non-vacuity: a follower that heard from its leader 100 ms ago refuses a vote request of a far higher term. -/
example : requestVote { id := 1, term := 3, lastContact := 900, config := ⟨1, [(1, true), (2, true), (3, true)]⟩ } 1000
    { candidate := 3, term := 99, lastIndex := 50, lastTerm := 98, prevote := false } =
    some ({ id := 1, term := 3, lastContact := 900, config := ⟨1, [(1, true), (2, true), (3, true)]⟩ }, { term := 3, granted := false }, []) := by
  decide

/-! ### Cluster level, with time (Model/Prevote.lean, Proofs/Prevote.lean)

    Terms move only by a candidacy (after prevotes of a quorum in the candidate's current round) or
    by adopting the term of another node. A prevote is granted only by a node that has not accepted
    a leader's request within the election timeout. Any node may start rounds, ask, be granted by
    whoever is not in contact, adopt and crash at any time (isolated and rejoining, restarting,
    removed, campaigning repeatedly: all of it). -/

/-- **No prevote round begun while a quorum is in prompt contact with a leader leads to a
    candidacy**: if a candidacy is enabled for `c` in a run every state of which has the members
    of the quorum `Q` in contact, then `c`'s round began no later than the run (on prevotes
    granted before it). -/
theorem C16_no_candidacy_from_rounds_begun_in_contact {cfg : Config} (hnd : cfg.voterIds.Nodup) {ET : Nat} {Q : List Nat}
    (hQ : Repl.IsQuorum cfg Q) {s0 a : Prevote.PState} (hr : Prevote.PReachable cfg ET s0)
    (hrun : Prevote.RunP cfg ET (Prevote.QContact ET Q) s0 a) (c : Nat) (hnew : s0.now < a.roundStart c) :
    ¬ ∃ Q', Repl.IsQuorum cfg Q' ∧ ∀ m ∈ Q', ∃ τ, a.roundStart c ≤ τ ∧ (c, m, τ) ∈ a.grants := by
  rintro ⟨Q', hQ', hg⟩
  exact Nat.not_lt.mpr (Prevote.candidacy_needs_old_round hnd hQ hr hrun c Q' hQ' hg) hnew

/-- **Without a candidacy no term in the cluster grows beyond what was there**: every term is bounded by one some
    node held at the start of the run. (If the leader's term was the largest then, it never meets a higher one and
    does not step down; a node that had raised its term before the run may still be adopted from.) -/
theorem C16_terms_only_copied {cfg : Config} {ET : Nat} {s0 s : Prevote.PState} (h : Prevote.RunNoCand cfg ET s0 s) :
    ∀ n, ∃ k, s.term n ≤ s0.term k := Prevote.terms_only_copied h

/-- Non-vacuity: nodes 1 and 2 of three accept a leader's request at time 0; 100 ms later node 3
    (isolated) starts a round and grants itself a prevote. Its round can not complete: every
    quorum contains node 1 or node 2, and neither grants while in contact. -/
example : ∃ a : Prevote.PState, Prevote.RunP Repl.cfg3 300 (Prevote.QContact 300 [1, 2])
      { heard := Prevote.setAt (Prevote.setAt (fun _ => none) 1 (some 0)) 2 (some 0) } a ∧
    a.roundStart 3 = 100 ∧ (3, 3, 100) ∈ a.grants ∧
    ¬ ∃ Q', Repl.IsQuorum Repl.cfg3 Q' ∧ ∀ m ∈ Q', ∃ τ, a.roundStart 3 ≤ τ ∧ (3, m, τ) ∈ a.grants := by
  obtain ⟨s0, hs0⟩ : ∃ s0 : Prevote.PState, s0 = { heard := Prevote.setAt (Prevote.setAt (fun _ => none) 1 (some 0)) 2 (some 0) } := ⟨_, rfl⟩
  have hreach : Prevote.PReachable Repl.cfg3 300 s0 := by
    rw [hs0]
    exact Prevote.PReachable.step (Prevote.PReachable.step Prevote.PReachable.base (Prevote.PStep.contact _ 1)) (Prevote.PStep.contact _ 2)
  have hc : ∀ (s : Prevote.PState), s.heard = s0.heard → s.now < 300 → Prevote.QContact 300 [1, 2] s := by
    intro s hh hn m hm
    simp only [List.mem_cons, List.mem_nil_iff, or_false] at hm
    rcases hm with rfl | rfl <;> exact ⟨0, by rw [hh, hs0]; simp [Prevote.setAt], by omega⟩
  have r0 : Prevote.RunP Repl.cfg3 300 (Prevote.QContact 300 [1, 2]) s0 s0 := Prevote.RunP.base (hc s0 rfl (by rw [hs0]; decide))
  have r1 := Prevote.RunP.step r0 (Prevote.PStep.tick s0 100) (hc _ rfl (by rw [hs0]; decide))
  have r2 := Prevote.RunP.step r1 (Prevote.PStep.startRound _ 3) (hc _ rfl (by rw [hs0]; decide))
  have hg3 : ¬ Prevote.inContact 300 { s0 with now := s0.now + 100, roundStart := Prevote.setAt s0.roundStart 3 (s0.now + 100) } 3 := by
    rintro ⟨h, hh, _⟩
    rw [hs0] at hh; simp [Prevote.setAt] at hh
  have r3 := Prevote.RunP.step r2 (Prevote.PStep.grant _ 3 3 hg3) (hc _ rfl (by rw [hs0]; decide))
  rw [← hs0]
  refine ⟨_, r3, by rw [hs0]; simp [Prevote.setAt], by rw [hs0]; simp, ?_⟩
  exact C16_no_candidacy_from_rounds_begun_in_contact Repl.cfg3_nodup Repl.quorum12 hreach r3 3 (by rw [hs0]; simp [Prevote.setAt])

end Raft
