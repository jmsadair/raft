/-
  Properties/C14.lean — restart after a crash between two storage writes: node level, and at the end
  the crash as a step of the replication-layer model (cluster level).

  `NodeWF` is what the handlers rely on; `restoreNode` is a first, simpler model of `restore()` on what
  the storages return (C12/C13 say what that is at every crash point): without the discard of a log that
  misses the snapshot boundary and without the configuration scan; `restore()` as the code runs it is
  `Node.restore` (Model/Lifecycle.lean), about which `C14_start_wf` and the `C14_restore_*` theorems
  speak (`C14_restore_wf` excepted: it is about `restoreNode`, and `C14_start_wf` covers it). Proved: a restored
  node is well-formed whenever the recovered log is well-formed and its base does not exceed the
  newest visible snapshot's label (the snapshot is made visible *before* the log is
  trimmed, in both `takeSnapshot` and `InstallSnapshot` — E4 checks that order on the real
  code by crashing between the two writes); on well-formed nodes the vote handler, the
  replication handler (with contiguous requests) and the apply loop never take a
  `logger.Fatal` path. Safety after the restart is C01/C02/C08 (crash steps are part
  of their models); catching up is C15. Tie: E4 crash walks with crash points armed at
  storage-operation boundaries inside critical sections, E2 images.
-/
import RaftVerif.Properties.C06
import RaftVerif.Proofs.RequestVote
import RaftVerif.Proofs.LeaderSpecs
import RaftVerif.Model.Lifecycle
import RaftVerif.Model.Snapshot
import RaftVerif.Properties.C15
namespace Raft
open Node Log

structure NodeWF (n : Node) : Prop where
  log_wf : n.log.WF
  base_le : n.log.base ≤ n.snapIndex
  snap_le_applied : n.snapIndex ≤ n.lastApplied
  applied_le_commit : n.lastApplied ≤ n.commitIndex

/-- `restore()`: term and vote from state storage, the log as replayed, boundary / commit /
    applied index from the newest visible snapshot (zero without one). -/
def restoreNode (id term vote : Nat) (log : Log) (snap : Option SnapFile) (cfg : Config) : Node :=
  let si := match snap with | some f => f.index | none => 0
  let st := match snap with | some f => f.term | none => 0
  { id := id, role := .shutdown, term := term, votedFor := vote, log := log, snapIndex := si, snapTerm := st,
    commitIndex := si, lastApplied := si, config := cfg }

/-- **A restored node is well-formed** (crash anywhere: only the two listed facts about the
    directory image are needed). -/
theorem C14_restore_wf (id term vote : Nat) (log : Log) (snap : Option SnapFile) (cfg : Config) (hw : log.WF)
    (hb : log.base ≤ (match snap with | some f => f.index | none => 0)) :
    NodeWF (restoreNode id term vote log snap cfg) :=
  ⟨hw, hb, Nat.le_refl _, Nat.le_refl _⟩

/-- **The vote handler never aborts**, in any state, for any request. -/
theorem C14_vote_handler_never_fatal {n n' : Node} {now : Nat} {q : RVReq} {r : RVResp} {eff : List Effect}
    (h : requestVote n now q = some (n', r, eff)) : Effect.fatal ∉ eff := by
  have hf := (rvEnter_follows n now q).no_fatal
  cases requestVote_cases h with
  | ignore | prevote => exact List.not_mem_nil
  | refuse => exact hf
  | grant => exact fun hm => (List.mem_append.mp hm).elim hf (fun h => by cases List.mem_singleton.mp h)

/-- **The previous-entry check never aborts on a well-formed node.** -/
theorem C14_prev_check_never_fatal (n : Node) (q : AEReq) (hw : n.log.WF) (hb : n.log.base ≤ n.snapIndex) :
    aePrevCheck n q ≠ .fatal := by
  intro hfat
  have hc := aePrevCheck_cases n q
  rw [hfat] at hc
  -- the only reads are the previous entry and the conflict scan below it, both inside a well-formed log
  cases hc with
  | unreadable h4 h2 hx =>
    obtain ⟨pe, hpe⟩ := wf_get?_some hw (Nat.lt_of_le_of_lt hb h4) h2
    rcases hx with hx | ⟨pe', _, _, hcs⟩
    · rw [hpe] at hx; cases hx
    · have := conflictScan_some n.log hw n.snapIndex pe'.term hb (q.prevIndex - 1) (Nat.le_trans (Nat.sub_le ..) h2)
      rw [hcs] at this; cases this

/-- **The replication handler never takes a `logger.Fatal` path** on a well-formed node with a contiguous
    request. (The `panic` effect is not excluded: a truncation at or below the configuration entry hands
    `nextConfiguration` the committed configuration, and these hypotheses allow that to be nil.) -/
theorem C14_append_handler_never_fatal {n n' : Node} {now : Nat} {q : AEReq} {r : AEResp} {eff : List Effect}
    (h : appendEntries n now q = some (n', r, eff)) (hp : AEPre n q) : Effect.fatal ∉ eff := by
  have hf := aeEnter_follows n now q
  cases appendEntries_cases h with
  | stale => exact List.not_mem_nil
  | reject => exact hf.no_fatal
  | unreadable _ hfat =>
    exact absurd hfat (C14_prev_check_never_fatal _ q (by rw [hf.log]; exact hp.wf) (by rw [hf.log, hf.snapIndex]; exact hp.base_le))
  | accept => exact (C06_accept h rfl hp).1

/-- **The apply loop never aborts** on a well-formed node whose commit index lies inside the log, when every
    entry of the log is of one of the three known kinds (configuration entries carrying their configuration). -/
theorem C14_apply_never_fatal (n : Node) (now : Nat) (hw : NodeWF n) (hc : n.commitIndex ≤ n.log.lastIndex)
    (hk : ∀ i e, n.log.get? i = some e → e.kind = kNoop ∨ e.kind = kOp ∨ (e.kind = kConfig ∧ e.cfg.isSome)) :
    Effect.fatal ∉ (n.applyStep now).2.1 := by
  have hcase := applyStep_cases n now
  generalize n.applyStep now = r at hcase ⊢
  cases hcase with
  | idle | noop | op => exact nofun
  | config => exact fun h => by rcases mem_applyConfiguration h with h | h <;> nomatch h
  | fatal hlt hbad =>
    obtain ⟨e, he⟩ := wf_get?_some hw.log_wf (Nat.lt_succ_of_le (Nat.le_trans hw.base_le hw.snap_le_applied)) (Nat.le_trans hlt hc)
    rcases hbad e he with ⟨h1, h2⟩ | ⟨h0, h2, h1⟩ <;> rcases hk _ e he with h | h | ⟨h, hs⟩
    · rw [h1] at h; nomatch h
    · rw [h1] at h; nomatch h
    · rw [h2] at hs; nomatch hs
    · exact absurd h h0
    · exact absurd h h1
    · exact absurd h h2

/-! ### `restore()` / `start` as the code runs them (Model/Lifecycle.lean, tied by E3-lifecycle) -/

/-- **In-place restart without a snapshot keeps the applied and commit index**: the state
    machine object survives Stop/Start, so the apply loop must go on after the last index it
    handed over (C01: no instance sees an index twice). -/
theorem C14_restore_keeps_applied (n : Node) (d : Node.Disk) (h : d.snap = none) :
    (n.restore d).lastApplied = n.lastApplied ∧ (n.restore d).commitIndex = n.commitIndex ∧
    (n.restore d).snapIndex = n.snapIndex := by
  unfold Node.restore; rw [h]; simp

/-- **With a snapshot the node restarts exactly at its label** (the state machine is rebuilt
    from the snapshot, a new instance). -/
theorem C14_restore_adopts_snapshot (n : Node) (d : Node.Disk) (i t : Nat) (c : Config) (h : d.snap = some (i, t, c)) :
    (n.restore d).lastApplied = i ∧ (n.restore d).commitIndex = i ∧ (n.restore d).snapIndex = i ∧
    (n.restore d).snapTerm = t := by
  unfold Node.restore; rw [h]; simp

/-- **Term, vote and log after a restart are exactly what the storages return** — except that a log
    which stops short of the newest snapshot's last entry, or contradicts it, is discarded up to the
    snapshot (the interrupted installation is finished: fix S21). -/
theorem C14_restore_reads_disk (n : Node) (d : Node.Disk) :
    (n.restore d).term = d.term ∧ (n.restore d).votedFor = d.vote ∧
    (n.restore d).log = (match d.snap with
      | some (i, t, _) => if Node.logMissesBoundary d.log i t then d.log.discard i t else d.log
      | none => d.log) := by
  unfold Node.restore; cases d.snap with
  | none => simp
  | some x => obtain ⟨i, t, c⟩ := x; simp

/-- **After a restart the log reaches the boundary** (fix S21): with a snapshot on disk the restored log
    either starts at the snapshot (discarded) or its last index is at least the snapshot's label — the
    state in which "log too short" and "snapshot has nothing new" used to alternate for ever is gone. -/
theorem C14_restore_log_reaches_boundary (n : Node) (d : Node.Disk) (i t : Nat) (c : Config) (h : d.snap = some (i, t, c)) :
    i ≤ (n.restore d).log.lastIndex := by
  have := (C14_restore_reads_disk n d).2.2
  rw [h] at this
  simp only at this
  rw [this]
  by_cases hm : Node.logMissesBoundary d.log i t = true
  · rw [if_pos hm]; exact Nat.le_refl i
  · rw [if_neg hm]
    unfold Node.logMissesBoundary at hm
    simp only [Bool.or_eq_true, decide_eq_true_eq, not_or] at hm
    exact Nat.le_of_not_lt hm.1

theorem start_eq_restore (n : Node) (now : Nat) (rf st : Bool) (d : Node.Disk) (hs : n.role = .shutdown)
    (hr : (rf || st) = true) :
    n.start now rf st d = { n.restore d with
      followers := (n.restore d).config.memberIds.map (fun i => ({ id := i } : Follower)),
      lastContact := now, role := .follower } := by
  unfold Node.start
  rw [if_neg (not_not_intro hs), if_pos hr]

/-- **A started node is a well-formed follower** when the directory is (the recovered log is
    well-formed, its base does not exceed the snapshot label) and the object was (what the in-place
    restart without a snapshot needs: with one, every index `NodeWF` reads is taken from it). -/
theorem C14_start_wf (n : Node) (now : Nat) (rf st : Bool) (d : Node.Disk) (hs : n.role = .shutdown)
    (hw : d.log.WF) (hn : NodeWF n)
    (hb : d.log.base ≤ (match d.snap with | some (i, _, _) => i | none => n.snapIndex))
    (hr : (rf || st) = true) :
    NodeWF (n.start now rf st d) ∧ (n.start now rf st d).role = .follower := by
  rw [start_eq_restore n now rf st d hs hr]
  refine ⟨?_, rfl⟩
  -- `start` writes none of the fields `NodeWF` speaks of
  suffices h : NodeWF (n.restore d) from ⟨h.log_wf, h.base_le, h.snap_le_applied, h.applied_le_commit⟩
  obtain ⟨_, _, hlog⟩ := C14_restore_reads_disk n d
  cases hsn : d.snap with
  | none =>
    obtain ⟨h1, h2, h3⟩ := C14_restore_keeps_applied n d hsn
    rw [hsn] at hb hlog
    exact ⟨hlog ▸ hw, by rw [hlog, h3]; exact hb, by rw [h1, h3]; exact hn.snap_le_applied,
      by rw [h1, h2]; exact hn.applied_le_commit⟩
  | some x =>
    obtain ⟨i, t, c⟩ := x
    obtain ⟨h1, h2, h3, _⟩ := C14_restore_adopts_snapshot n d i t c hsn
    rw [hsn] at hb hlog
    obtain ⟨hlw, hlb⟩ : (n.restore d).log.WF ∧ (n.restore d).log.base ≤ i := by
      rw [hlog]; dsimp only; split
      · exact ⟨wf_discard _ _ _, Nat.le_refl _⟩
      · exact ⟨hw, hb⟩
    exact ⟨hlw, h3 ▸ hlb, by rw [h1, h3]; exact Nat.le_refl _, by rw [h1, h2]; exact Nat.le_refl _⟩

/-- **A local snapshot that was overtaken by an installed one is never published** (fix S10): if the
    node's boundary has reached the label while `fsm.Snapshot` ran, `takeSnapshot` changes nothing and
    discards the file — so the newest visible snapshot is never older than what the log was discarded
    for, and `restore()` finds the entries right after the snapshot it loads. -/
theorem C14_overtaken_snapshot_not_published (n : Node) (l : Node.SnapLabel) (content : List Nat) (h : l.index ≤ n.snapIndex) :
    n.snapshotEnd l content = (n, [.snapDiscard]) := by
  unfold Node.snapshotEnd
  rw [if_pos h]

/-- … and a published local snapshot moves the boundary to exactly its label. -/
theorem C14_published_snapshot_is_boundary (n : Node) (l : Node.SnapLabel) (content : List Nat) (h : ¬ l.index ≤ n.snapIndex)
    (hnf : Effect.fatal ∉ (n.snapshotEnd l content).2) :
    (n.snapshotEnd l content).1.snapIndex = l.index ∧
    (n.snapshotEnd l content).1.snaps = n.snaps ++ [{ index := l.index, term := l.term, data := content }] := by
  unfold Node.snapshotEnd at hnf ⊢
  rw [if_neg h] at hnf ⊢
  simp only at hnf ⊢
  split
  · simp [Node.resetSnapshots]
  · rename_i hc
    rw [hc] at hnf
    simp at hnf

/-! ### Cluster level: a crash at any point, then restart and rejoin

    In the replication-layer model a crash is a step (log, term and vote persist — what C12/C13 give for
    every crash point between and inside the storage writes — role and commit index are lost), so the
    safety theorems already quantify over runs with crashes. Spelled out for C14: -/

/-- **Nothing applied anywhere is contradicted after a crash and restart**: for a crash of any node in
    any reachable state and everything that happens afterwards, the committed prefixes of any two
    nodes, one taken before the crash and one at any later time, are comparable. -/
theorem C14_safety_across_crash {cfg : Config} (hnd : cfg.voterIds.Nodup) {s s'' : Repl.AState} (hr : Repl.Reachable cfg s) (n : Nat)
    (hafter : Repl.ReachableFrom cfg { s with nodes := Repl.setNode s n { s.nodes n with role := .follower, commit := 0 } } s'')
    (a b : Nat) :
    (s.nodes a).log.take (s.nodes a).commit <+: (s''.nodes b).log.take (s''.nodes b).commit ∨
    (s''.nodes b).log.take (s''.nodes b).commit <+: (s.nodes a).log.take (s.nodes a).commit :=
  Repl.state_machine_safety hnd hr (.head (.crash s n) hafter) a b

/-- **The restarted node can rejoin and catch up, and loses nothing it had applied**: after the crash of
    any node there is a continuation at the end of which every voter (the restarted one included, if it
    is one) holds the leader's log with the same commit index, and everything that was committed
    before the crash — in particular what the crashed node itself had applied — is a prefix of it. -/
theorem C14_restarted_node_can_catch_up {cfg : Config} (hnd : cfg.voterIds.Nodup) (hne : cfg.voterIds ≠ []) {s : Repl.AState}
    (hr : Repl.Reachable cfg s) (n : Nat) :
    ∃ s' l, Repl.ReachableFrom cfg { s with nodes := Repl.setNode s n { s.nodes n with role := .follower, commit := 0 } } s' ∧
      (s'.nodes l).role = .leader ∧
      (∀ v, cfg.isVoter v = true → (s'.nodes v).log = (s'.nodes l).log ∧ (s'.nodes v).commit = (s'.nodes l).log.length) ∧
      ∀ a, (s.nodes a).log.take (s.nodes a).commit <+: (s'.nodes l).log := by
  have hstep : Repl.Step cfg s { s with nodes := Repl.setNode s n { s.nodes n with role := .follower, commit := 0 } } := Repl.Step.crash s n
  obtain ⟨s', l, hf, hl, hall, hkeep⟩ := C15_convergence_keeps_all_committed hnd hne (hr.step hstep)
  exact ⟨s', l, hf, hl, hall, fun a =>
    hkeep _ _ (Repl.committed_stable hnd hr (.one hstep) ((Repl.inv_reachable hnd hr).commit_ok a).2)⟩

end Raft
