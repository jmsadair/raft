/-
  Proofs/ReplSnapshot.lean — snapshot installation inside the replication-layer model.

  The model of Model/Repl.lean keeps whole logs (a compaction is invisible at this level: the
  entries below the boundary are exactly what the snapshot stands for, C10). What the code
  does to a follower's log when it installs a snapshot labelled `i` taken from the log `g` of
  the leader is `installLog`; under log matching it is the model's `merge` of the request
  "previous index 0, entries g[1..i]", so an installation is two steps of the model (C11 says what follows).
-/
import RaftVerif.Model.ReplRead
import RaftVerif.Proofs.ReplSafety
namespace Raft
namespace Repl

/-- the follower's log after installing a snapshot of `g` up to index `i` -/
def installLog (log g : List AEntry) (i : Nat) : List AEntry :=
  if i ≤ log.length ∧ termAt log i = termAt g i then log else g.take i

/-- Log matching as the lemmas below assume it (`hm`), with the trivial position 0 included. -/
theorem take_eq_of_matching {log g : List AEntry} {i : Nat} (hig : i ≤ g.length)
    (hm : ∀ j, 1 ≤ j → j ≤ log.length → j ≤ g.length → termAt log j = termAt g j → log.take j = g.take j)
    (hil : i ≤ log.length) (ht : termAt log i = termAt g i) : log.take i = g.take i := by
  cases i with
  | zero => rfl
  | succ k => exact hm _ (Nat.succ_pos k) hil hig ht

/-- **Installation is a merge**: with log matching between the follower's log and the
    leader's, installing the snapshot (i, g) leaves the log the replication request
    (prev = 0, entries = g[1..i]) would leave. -/
theorem install_eq_merge (log g : List AEntry) (i : Nat) (hig : i ≤ g.length)
    (hm : ∀ j, 1 ≤ j → j ≤ log.length → j ≤ g.length → termAt log j = termAt g j → log.take j = g.take j) :
    merge log 0 (g.take i) = installLog log g i := by
  have hlen : (g.take i).length = i := List.length_take_of_le hig
  have hseg : g.take i = (g.drop 0).take (g.take i).length := by rw [hlen, List.drop_zero]
  obtain ⟨h1, h2, h3⟩ := merge_spec log g (g.take i) 0 (Nat.zero_le _) rfl hseg
    (fun j hj1 hj2 hj3 hj4 => hm j hj1 hj2 (by omega) hj4)
  rw [hlen, Nat.zero_add] at h1 h2 h3
  unfold installLog
  by_cases hA : i ≤ log.length ∧ termAt log i = termAt g i
  · rw [if_pos hA]; exact h3 hA.1 (take_eq_of_matching hig hm hA.1 hA.2)
  · rw [if_neg hA]
    rcases h2 with h | h
    · -- the merge left the log alone: then the log is g[1..i]
      rw [h] at h1 ⊢
      by_cases hil : i ≤ log.length
      · exact absurd ⟨hil, termAt_of_take_eq h1⟩ hA
      · rw [List.take_of_length_le (Nat.le_of_not_le hil)] at h1; exact h1
    · exact h

/-- `sendAE` from position `prev` with `k` entries, then `recvAEok` at a node whose term is not ahead and
    whose log matches at `prev`. The role guard holds: a node that leads the same term would be the leader itself. -/
theorem send_recv {cfg : Config} (hnd : cfg.voterIds.Nodup) {s : AState} (hr : Reachable cfg s)
    (l n prev k stamp : Nat) (hl : (s.nodes l).role = .leader) (hp : prev ≤ (s.nodes l).log.length) (hn : n ≠ l)
    (ht : (s.nodes n).term ≤ (s.nodes l).term) (hpn : prev ≤ (s.nodes n).log.length)
    (hpt : termAt (s.nodes n).log prev = termAt (s.nodes l).log prev) :
    Step cfg s (sendAES s l prev k stamp) ∧
    Step cfg (sendAES s l prev k stamp) (recvAEokS (sendAES s l prev k stamp) n
      ⟨(s.nodes l).term, prev, termAt (s.nodes l).log prev, ((s.nodes l).log.drop prev).take k, (s.nodes l).commit, stamp⟩) := by
  refine ⟨.sendAE s l prev k stamp hl hp, .recvAEok _ n _ List.mem_cons_self ht ?_ hpn hpt⟩
  by_cases hrl : (s.nodes n).role = .leader
  · exact .inr (Nat.lt_of_le_of_ne ht fun heq => hn (one_leader_per_term hnd hr n l hrl hl heq))
  · exact .inl hrl

/-- **A snapshot installation is two steps of the model**: the leader builds the request, the node accepts it
    (`C11_install_is_replication`). -/
theorem install_snapshot_simulated {cfg : Config} (hnd : cfg.voterIds.Nodup) {s : AState} (hr : Reachable cfg s)
    (l n i stamp : Nat) (hl : (s.nodes l).role = .leader) (hi : i ≤ (s.nodes l).commit) (hn : n ≠ l)
    (ht : (s.nodes n).term ≤ (s.nodes l).term) :
    ∃ s1 s2, Step cfg s s1 ∧ Step cfg s1 s2 ∧
      (s2.nodes n).log = installLog (s.nodes n).log (s.nodes l).log i ∧
      (s2.nodes n).commit = max (s.nodes n).commit i ∧
      (s2.nodes n).term = (s.nodes l).term ∧ (∀ j, j ≠ n → s2.nodes j = s.nodes j) := by
  have hinv := inv_reachable hnd hr
  have hig : i ≤ (s.nodes l).log.length := Nat.le_trans hi (hinv.commit_ok l).1
  obtain ⟨h1, h2⟩ := send_recv hnd hr l n 0 i stamp hl (Nat.zero_le _) hn ht (Nat.zero_le _) rfl
  refine ⟨_, _, h1, h2, ?_, ?_, ?_, fun j hj => setNode_other _ _ hj⟩
  all_goals simp only [recvAEokS, setNode_same, sendAES, List.drop_zero]
  · exact install_eq_merge _ _ _ hig (hinv.log_matching n l)
  · rw [List.length_take_of_le hig, Nat.zero_add, Nat.min_eq_right hi]

/-- … hence the state after an installation is reachable: log matching, leader completeness and state
    machine safety, which hold of every reachable state, hold in it and in everything after it. -/
theorem install_snapshot_reachable {cfg : Config} (hnd : cfg.voterIds.Nodup) {s : AState} (hr : Reachable cfg s)
    (l n i stamp : Nat) (hl : (s.nodes l).role = .leader) (hi : i ≤ (s.nodes l).commit) (hn : n ≠ l)
    (ht : (s.nodes n).term ≤ (s.nodes l).term) :
    ∃ s2, Reachable cfg s2 ∧ ReachableFrom cfg s s2 ∧
      (s2.nodes n).log = installLog (s.nodes n).log (s.nodes l).log i ∧
      (s2.nodes n).commit = max (s.nodes n).commit i := by
  obtain ⟨s1, s2, h1, h2, h3, h4, _, _⟩ := install_snapshot_simulated hnd hr l n i stamp hl hi hn ht
  exact ⟨s2, (hr.step h1).step h2, (ReachableFrom.one h1).step h2, h3, h4⟩

theorem installLog_prefix (log g : List AEntry) (i : Nat) (hig : i ≤ g.length)
    (hm : ∀ j, 1 ≤ j → j ≤ log.length → j ≤ g.length → termAt log j = termAt g j → log.take j = g.take j) :
    (installLog log g i).take i = g.take i := by
  unfold installLog
  split
  · next h => exact take_eq_of_matching hig hm h.1 h.2
  · rw [List.take_take, Nat.min_self]

end Repl
end Raft
