/-
  Proofs/ElectionSafety.lean — the inductive invariant of the election layer and
  election safety (at most one leader per term), for every reachable cluster state.

  Every step of Model/Cluster.lean moves one node and/or lets one list of the ghost history grow, and the
  invariant holds in between. So there is one lemma for a node that moves (`Inv.node`: all that is said about
  requests, replies and granters survives because terms, round numbers and the vote history only grow) and one
  per list (`Inv.returned`, `Inv.reply`, `Inv.counted`, `Inv.calls`); the six steps are compositions of these.
  That a counted quorum is a quorum of recorded votes is a fact about a state (`Inv.round_quorum`).
-/
import RaftVerif.Model.Cluster
import RaftVerif.Proofs.Quorum
import RaftVerif.Proofs.ElectionLemmas
import RaftVerif.Proofs.RequestVote
namespace Raft
namespace Cluster
open Node

/-- number of counted grants of round `rid` of node `i` -/
def countG (gs : List (CallId × RVReq)) (i rid : Nat) : Nat :=
  (gs.filter (fun g => g.1.1 = i ∧ g.1.2.1 = rid)).length

/-- What every step does to the node it changes. -/
structure NodeStepOK (n n' : Node) : Prop where
  id_eq : n'.id = n.id
  config_eq : n'.config = n.config
  tv : TVStep (n.term, n.votedFor) (n'.term, n'.votedFor)
  nextRound_le : n.nextRound ≤ n'.nextRound

/-- `vote_*`, `cur_vote`: the vote history fits every voter's persisted (term, vote); `rq_*`: what a vote request says
    of its sender's round; `rp_*`: a granting reply to a real request is a recorded vote; `gr_*`: the counted grants are
    returned granting replies, one per call; `rd_*`: a round's counter is at most one plus its counted grants;
    `ld_quorum`: every recorded leader has a quorum of recorded votes. The chain `rd_cnt`, `gr_req`, `rq_same`, `rp_vote`
    is what turns a counter that reaches `hasQuorum` into that quorum (`Inv.round_quorum`). -/
structure Inv (cfg : Config) (c : Cluster) : Prop where
  ids : ∀ i, (c.nodes i).id = i
  cfgs : ∀ i, (c.nodes i).config = cfg
  vote_nz : ∀ t v x, (t, v, x) ∈ c.votes → x ≠ 0
  vote_le : ∀ t v x, (t, v, x) ∈ c.votes → t ≤ (c.nodes v).term
  vote_cur : ∀ t v x, (t, v, x) ∈ c.votes → t = (c.nodes v).term → (c.nodes v).votedFor = x
  cur_vote : ∀ v, (c.nodes v).votedFor ≠ 0 → ((c.nodes v).term, v, (c.nodes v).votedFor) ∈ c.votes
  vote_uniq : ∀ t v x y, (t, v, x) ∈ c.votes → (t, v, y) ∈ c.votes → x = y
  rq_cand : ∀ k q, (k, q) ∈ c.requests → q.candidate = k.1
  rq_round : ∀ k q, (k, q) ∈ c.requests → k.2.1 < (c.nodes k.1).nextRound
  rq_voter : ∀ k q, (k, q) ∈ c.requests → cfg.isVoter k.2.2 = true ∧ k.2.2 ≠ k.1 ∧ cfg.isVoter k.1 = true
  rq_term : ∀ k q, (k, q) ∈ c.requests → q.prevote = false → q.term ≤ (c.nodes k.1).term
  rq_self : ∀ k q, (k, q) ∈ c.requests → q.prevote = false → (q.term, k.1, k.1) ∈ c.votes
  rq_same : ∀ k q k' q', (k, q) ∈ c.requests → (k', q') ∈ c.requests → k'.1 = k.1 → k'.2.1 = k.2.1 →
    q'.term = q.term ∧ q'.prevote = q.prevote
  rp_req : ∀ k q r, (k, q, r) ∈ c.replies → (k, q) ∈ c.requests
  rp_vote : ∀ k q r, (k, q, r) ∈ c.replies → r.granted = true → q.prevote = false → (q.term, k.2.2, q.candidate) ∈ c.votes
  gr_req : ∀ k q, (k, q) ∈ c.granters → (k, q) ∈ c.requests ∧ k ∈ c.returned ∧ ∃ r, (k, q, r) ∈ c.replies ∧ r.granted = true
  gr_nodup : (c.granters.map (·.1)).Nodup
  rd_lt : ∀ i rid cnt, (rid, cnt) ∈ (c.nodes i).rvRounds → rid < (c.nodes i).nextRound
  rd_cnt : ∀ i rid cnt, (rid, cnt) ∈ (c.nodes i).rvRounds → cnt ≤ 1 + countG c.granters i rid
  ld_quorum : ∀ t i, (t, i) ∈ c.leaders → ∃ Q : List Nat, Q.Nodup ∧
    (∀ v ∈ Q, cfg.isVoter v = true ∧ (t, v, i) ∈ c.votes) ∧ cfg.hasQuorum Q.length = true

/-- `two`: the election loop of a sole voter takes another path (`election_outcome` is about the other one);
    `zero`: `votedFor = 0` means "no vote" (`voter_ne_zero`). -/
structure CfgOK (cfg : Config) : Prop where
  two : 2 ≤ cfg.voters
  nodup : cfg.voterIds.Nodup
  zero : cfg.isVoter 0 = false

theorem voter_ne_zero {cfg : Config} (hc : CfgOK cfg) {v : Nat} (h : cfg.isVoter v = true) : v ≠ 0 :=
  fun h0 => Bool.false_ne_true (hc.zero.symm.trans (h0 ▸ h))

/-- A quorum of voters whose recorded vote of term `t` is for `i`: what makes `i` leader of `t`. -/
def VoteQuorum (cfg : Config) (votes : List (Nat × Nat × Nat)) (t i : Nat) : Prop :=
  ∃ Q : List Nat, Q.Nodup ∧ (∀ v ∈ Q, cfg.isVoter v = true ∧ (t, v, i) ∈ votes) ∧ cfg.hasQuorum Q.length = true

theorem VoteQuorum.mono {cfg : Config} {vs vs' : List (Nat × Nat × Nat)} {t i : Nat} (h : VoteQuorum cfg vs t i)
    (hs : ∀ x ∈ vs, x ∈ vs') : VoteQuorum cfg vs' t i :=
  let ⟨Q, q1, q2, q3⟩ := h
  ⟨Q, q1, fun v hv => ⟨(q2 v hv).1, hs _ (q2 v hv).2⟩, q3⟩

theorem setNode_same (c : Cluster) (i : Nat) (n : Node) : c.setNode i n i = n := if_pos rfl
theorem setNode_other (c : Cluster) {i j : Nat} (n : Node) (h : j ≠ i) : c.setNode i n j = c.nodes j := if_neg h
theorem withNode_same (c : Cluster) (i : Nat) (n : Node) : (c.withNode i n).nodes i = n := if_pos rfl

theorem setNode_all {P : Nat → Node → Prop} {c : Cluster} {i : Nat} {n' : Node} (hi : P i n') (hc : ∀ j, P j (c.nodes j)) (j : Nat) :
    P j (c.setNode i n' j) := by
  by_cases h : j = i
  · subst h; rw [setNode_same]; exact hi
  · rw [setNode_other c n' h]; exact hc j

theorem mem_voteDelta {i : Nat} {n n' : Node} {x : Nat × Nat × Nat} :
    x ∈ voteDelta i n n' ↔
      x = (n'.term, i, n'.votedFor) ∧ n'.votedFor ≠ 0 ∧ (n'.term ≠ n.term ∨ n'.votedFor ≠ n.votedFor) := by
  rw [voteDelta, List.mem_ite_nil_right, List.mem_singleton, and_comm]

theorem mem_leaderDelta {i : Nat} {n n' : Node} {x : Nat × Nat} :
    x ∈ leaderDelta i n n' ↔ x = (n'.term, i) ∧ n'.role = .leader ∧ (n.role ≠ .leader ∨ n.term ≠ n'.term) := by
  rw [leaderDelta, List.mem_ite_nil_right, List.mem_singleton, and_comm]

theorem withNode_self (c : Cluster) (i : Nat) : c.withNode i (c.nodes i) = c := by
  have : c.setNode i (c.nodes i) = c.nodes := funext fun j => ite_eq_right_iff.mpr fun h => h ▸ rfl
  simp [withNode, this, voteDelta, leaderDelta]

theorem mem_spawnedCalls {n' : Node} {rid : Nat} {eff : List Effect} {k : CallId} {q : RVReq}
    (h : (k, q) ∈ spawnedCalls n' rid eff) :
    ∃ peer pv, Effect.spawnRV peer pv ∈ eff ∧ n'.prepareRV peer pv = some q ∧ k = (n'.id, rid, peer) := by
  obtain ⟨e, he, hm⟩ := List.mem_filterMap.mp h
  cases e with
  | spawnRV peer pv =>
    cases hp : n'.prepareRV peer pv with
    | none => simp [hp] at hm
    | some q' =>
      simp only [hp, Option.some.injEq, Prod.mk.injEq] at hm
      exact ⟨peer, pv, he, hm.2 ▸ hp, hm.1.symm⟩
  | _ => simp at hm

theorem countG_append (g gs : List (CallId × RVReq)) (i rid : Nat) :
    countG (g ++ gs) i rid = countG g i rid + countG gs i rid := by
  unfold countG; rw [List.filter_append, List.length_append]

theorem countG_cons_self (gs : List (CallId × RVReq)) (k : CallId) (q : RVReq) :
    countG ((k, q) :: gs) k.1 k.2.1 = countG gs k.1 k.2.1 + 1 := by
  unfold countG; simp

/-- the voters whose grants a round has counted -/
def roundVoters (gs : List (CallId × RVReq)) (i rid : Nat) : List Nat :=
  (gs.filter (fun g => g.1.1 = i ∧ g.1.2.1 = rid)).map (fun g => g.1.2.2)

theorem roundVoters_length (gs : List (CallId × RVReq)) (i rid : Nat) : (roundVoters gs i rid).length = countG gs i rid :=
  List.length_map _

theorem mem_roundVoters {gs : List (CallId × RVReq)} {i rid v : Nat} :
    v ∈ roundVoters gs i rid ↔ ∃ q, ((i, rid, v), q) ∈ gs := by
  simp only [roundVoters, List.mem_map, List.mem_filter, decide_eq_true_eq]
  constructor
  · rintro ⟨⟨⟨a, b, w⟩, q⟩, ⟨hm, rfl, rfl⟩, rfl⟩; exact ⟨q, hm⟩
  · rintro ⟨q, hm⟩; exact ⟨_, ⟨hm, rfl, rfl⟩, rfl⟩

theorem roundVoters_nodup {gs : List (CallId × RVReq)} (h : (gs.map (·.1)).Nodup) (i rid : Nat) :
    (roundVoters gs i rid).Nodup := by
  unfold roundVoters
  rw [List.Nodup, List.pairwise_map, List.pairwise_filter]
  refine (List.pairwise_map.mp h).imp ?_
  rintro ⟨⟨a, b, w⟩, q⟩ ⟨⟨a', b', w'⟩, q'⟩ hne h1 h2 hw
  simp only [decide_eq_true_eq] at h1 h2
  simp only at hw
  exact hne (by rw [h1.1, h1.2, h2.1, h2.2, hw])

theorem NodeStepOK.refl (n : Node) : NodeStepOK n n := ⟨rfl, rfl, TVStep.refl _, Nat.le_refl _⟩

/-- Seen from any node `j`, replacing node `i` is a `NodeStepOK` move: the frame of every step. -/
theorem NodeStepOK.setNode {c : Cluster} {i : Nat} {n' : Node} (h : NodeStepOK (c.nodes i) n') :
    ∀ j, NodeStepOK (c.nodes j) (c.setNode i n' j) :=
  setNode_all (P := fun j a => NodeStepOK (c.nodes j) a) h fun _ => .refl _

theorem Inv.votesOK {cfg : Config} {c : Cluster} (hi : Inv cfg c) (v : Nat) :
    VotesOK (fun t x => (t, v, x) ∈ c.votes) ((c.nodes v).term, (c.nodes v).votedFor) :=
  ⟨fun h => hi.vote_nz _ _ _ h, fun h => hi.vote_le _ _ _ h, fun h => hi.vote_cur _ _ _ h,
   fun hx hy => hi.vote_uniq _ _ _ _ hx hy⟩

/-- Node `i` moves to `n'`, the call history stays. What the caller owes is the part about `n'` itself: its
    vote rounds that are not old ones and, if it newly leads (the condition of `leaderDelta`), its quorum. -/
theorem Inv.node {cfg : Config} {c : Cluster} (hi : Inv cfg c) {i : Nat} {n' : Node} (hok : NodeStepOK (c.nodes i) n')
    (hrd : ∀ x ∈ n'.rvRounds, x ∈ (c.nodes i).rvRounds ∨ (x.1 < n'.nextRound ∧ x.2 ≤ 1 + countG c.granters i x.1))
    (hld : n'.role = .leader → (c.nodes i).role ≠ .leader ∨ (c.nodes i).term ≠ n'.term → VoteQuorum cfg c.votes n'.term i) :
    Inv cfg (c.withNode i n') := by
  have hst := hok.setNode
  have vold : ∀ x ∈ c.votes, x ∈ (c.withNode i n').votes := fun x h => List.mem_append_right _ h
  have hV : ∀ v, VotesOK (fun t x => (t, v, x) ∈ (c.withNode i n').votes)
      ((c.setNode i n' v).term, (c.setNode i n' v).votedFor) := by
    intro v
    refine (hi.votesOK v).step (hst v).tv fun t x hx => ?_
    rcases List.mem_append.mp hx with h | h
    · obtain ⟨e, hnz, _⟩ := mem_voteDelta.mp h
      cases e; rw [setNode_same]; exact .inr ⟨rfl, rfl, hnz⟩
    · exact .inl h
  have hR := setNode_all (P := fun j a => ∀ x ∈ a.rvRounds, x.1 < a.nextRound ∧ x.2 ≤ 1 + countG c.granters j x.1)
    (fun x h => (hrd x h).elim (fun ho => ⟨Nat.lt_of_lt_of_le (hi.rd_lt i _ _ ho) hok.nextRound_le, hi.rd_cnt i _ _ ho⟩) id)
    fun j x h => ⟨hi.rd_lt j _ _ h, hi.rd_cnt j _ _ h⟩
  exact { hi with
    ids := fun j => (hst j).id_eq.trans (hi.ids j)
    cfgs := fun j => (hst j).config_eq.trans (hi.cfgs j)
    vote_nz := fun t v x h => (hV v).nz h
    vote_le := fun t v x h => (hV v).le h
    vote_cur := fun t v x h => (hV v).cur h
    vote_uniq := fun t v x y hx hy => (hV v).uniq hx hy
    cur_vote := setNode_all (P := fun v a => a.votedFor ≠ 0 → (a.term, v, a.votedFor) ∈ (c.withNode i n').votes)
      (fun hv => by
        -- the pair did not move and the vote is an old one, or it is the entry `voteDelta` adds
        by_cases hs : n'.term = (c.nodes i).term ∧ n'.votedFor = (c.nodes i).votedFor
        · rw [hs.1, hs.2]; exact vold _ (hi.cur_vote i (hs.2 ▸ hv))
        · exact List.mem_append_left _ (mem_voteDelta.mpr ⟨rfl, hv, Decidable.not_and_iff_not_or_not.mp hs⟩))
      fun v hv => vold _ (hi.cur_vote v hv)
    rq_round := fun k q h => Nat.lt_of_lt_of_le (hi.rq_round k q h) (hst k.1).nextRound_le
    rq_term := fun k q h hp => Nat.le_trans (hi.rq_term k q h hp) (hst k.1).tv.1
    rq_self := fun k q h hp => vold _ (hi.rq_self k q h hp)
    rp_vote := fun k q r h hg hp => vold _ (hi.rp_vote k q r h hg hp)
    rd_lt := fun j rid cnt h => (hR j (rid, cnt) h).1
    rd_cnt := fun j rid cnt h => (hR j (rid, cnt) h).2
    ld_quorum := fun t l h => by
      rcases List.mem_append.mp h with h | h
      · obtain ⟨e, hl, hnew⟩ := mem_leaderDelta.mp h
        cases e; exact (hld hl hnew).mono vold
      · exact VoteQuorum.mono (hi.ld_quorum t l h) vold }

/-- A step of node `i` that starts no vote round and wins nothing: `other`, `crash`, the voter's side of `deliver`. -/
theorem Inv.quiet {cfg : Config} {c : Cluster} (hi : Inv cfg c) {i : Nat} {n' : Node} (hok : NodeStepOK (c.nodes i) n')
    (hrounds : ∀ x ∈ n'.rvRounds, x ∈ (c.nodes i).rvRounds)
    (hrole : n'.role = .leader → (c.nodes i).role = .leader ∧ n'.term = (c.nodes i).term) :
    Inv cfg (c.withNode i n') :=
  hi.node hok (fun x h => .inl (hrounds x h)) fun h hnew => (hnew.elim (· (hrole h).1) (· (hrole h).2.symm)).elim

theorem Inv.returned {cfg : Config} {c : Cluster} (hi : Inv cfg c) {ret : List CallId} (h : ∀ k ∈ c.returned, k ∈ ret) :
    Inv cfg { c with returned := ret } :=
  { hi with gr_req := fun k q hg => let ⟨a, b, cc⟩ := hi.gr_req k q hg; ⟨a, h k b, cc⟩ }

/-- A delivery of a known call produced reply `r`; a granted real vote is in the vote history by then. -/
theorem Inv.reply {cfg : Config} {c : Cluster} (hi : Inv cfg c) {k : CallId} {q : RVReq} {r : RVResp} (hk : (k, q) ∈ c.requests)
    (hv : r.granted = true → q.prevote = false → (q.term, k.2.2, q.candidate) ∈ c.votes) :
    Inv cfg { c with replies := (k, q, r) :: c.replies } :=
  { hi with
    rp_req := forall_mem_cons₃ hk hi.rp_req
    rp_vote := forall_mem_cons₃ hv hi.rp_vote
    gr_req := fun k' q' h => let ⟨a, b, r', cc, d⟩ := hi.gr_req k' q' h; ⟨a, b, r', List.mem_cons_of_mem _ cc, d⟩ }

/-- A call returns to its caller for the first time; if the reply it carries is a grant, it is counted. -/
theorem Inv.counted {cfg : Config} {c : Cluster} (hi : Inv cfg c) {k : CallId} {q : RVReq} {r : RVResp}
    (hk : (k, q) ∈ c.requests) (hr : (k, q, r) ∈ c.replies) (hnr : k ∉ c.returned) :
    Inv cfg { c with returned := k :: c.returned, granters := (if r.granted then [(k, q)] else []) ++ c.granters } := by
  have h1 := hi.returned (ret := k :: c.returned) fun _ h => List.mem_cons_of_mem _ h
  split
  · next hg =>
    exact { h1 with
      gr_req := fun k' q' h => by
        rcases List.mem_cons.mp h with e | h
        · cases e; exact ⟨hk, List.mem_cons_self, r, hr, hg⟩
        · exact h1.gr_req k' q' h
      gr_nodup := List.nodup_cons.mpr ⟨fun hm => by
        obtain ⟨g, hg', (e : g.1 = k)⟩ := List.mem_map.mp hm
        exact hnr (e ▸ (hi.gr_req g.1 g.2 hg').2.1), hi.gr_nodup⟩
      rd_cnt := fun j rid cnt h => Nat.le_trans (hi.rd_cnt j rid cnt h)
        (by rw [countG_append [(k, q)]]; omega) }
  · exact h1

/-- Node `i` creates the calls of a round `rid` it has just numbered: all to voters other than itself, all with
    one term `T` and one kind `pv`; for a real round the node has voted for itself in `T`. -/
theorem Inv.calls {cfg : Config} {c : Cluster} (hi : Inv cfg c) {i rid T : Nat} {pv : Bool} {rq : List (CallId × RVReq)}
    (hfresh : ∀ k q, (k, q) ∈ c.requests → k.1 = i → k.2.1 ≠ rid) (hrid : rid < (c.nodes i).nextRound)
    (hvi : cfg.isVoter i = true) (hreal : pv = false → T ≤ (c.nodes i).term ∧ (T, i, i) ∈ c.votes)
    (h : ∀ k q, (k, q) ∈ rq → k.1 = i ∧ k.2.1 = rid ∧ cfg.isVoter k.2.2 = true ∧ k.2.2 ≠ i ∧
      q.candidate = i ∧ q.term = T ∧ q.prevote = pv) :
    Inv cfg { c with requests := rq ++ c.requests } := by
  have old : ∀ {x}, x ∈ c.requests → x ∈ rq ++ c.requests := fun h => List.mem_append_right _ h
  have both : ∀ {P : CallId → RVReq → Prop}, (∀ k q, (k, q) ∈ rq → P k q) → (∀ k q, (k, q) ∈ c.requests → P k q) →
      ∀ k q, (k, q) ∈ rq ++ c.requests → P k q := fun a b k q hm => (List.mem_append.mp hm).elim (a k q) (b k q)
  have new : ∀ k q, (k, q) ∈ rq → q.candidate = k.1 ∧ k.2.1 < (c.nodes k.1).nextRound ∧
      (cfg.isVoter k.2.2 = true ∧ k.2.2 ≠ k.1 ∧ cfg.isVoter k.1 = true) ∧
      (q.prevote = false → q.term ≤ (c.nodes k.1).term ∧ (q.term, k.1, k.1) ∈ c.votes) := by
    intro k q hn
    obtain ⟨rfl, rfl, v, ne, ec, rfl, rfl⟩ := h k q hn
    exact ⟨ec, hrid, ⟨v, ne, hvi⟩, hreal⟩
  exact { hi with
    rq_cand := both (fun k q hn => (new k q hn).1) hi.rq_cand
    rq_round := both (fun k q hn => (new k q hn).2.1) hi.rq_round
    rq_voter := both (fun k q hn => (new k q hn).2.2.1) hi.rq_voter
    rq_term := both (fun k q hn hp => ((new k q hn).2.2.2 hp).1) hi.rq_term
    rq_self := both (fun k q hn hp => ((new k q hn).2.2.2 hp).2) hi.rq_self
    -- a new call and an old one are never of one round (`hfresh`); two new ones carry the same `T`, `pv`
    rq_same := fun k q k' q' hm hm' e1 e2 => by
      rcases List.mem_append.mp hm with hn | ho <;> rcases List.mem_append.mp hm' with hn' | ho'
      · obtain ⟨_, _, _, _, _, t, p⟩ := h k q hn
        obtain ⟨_, _, _, _, _, t', p'⟩ := h k' q' hn'
        exact ⟨t'.trans t.symm, p'.trans p.symm⟩
      · obtain ⟨a, b, _⟩ := h k q hn; exact absurd (e2.trans b) (hfresh k' q' ho' (e1.trans a))
      · obtain ⟨a, b, _⟩ := h k' q' hn'; exact absurd (e2.symm.trans b) (hfresh k q ho (e1.symm.trans a))
      · exact hi.rq_same k q k' q' ho ho' e1 e2
    rp_req := fun k q r hm => old (hi.rp_req k q r hm)
    gr_req := fun k q hm => let ⟨a, b⟩ := hi.gr_req k q hm; ⟨old a, b⟩ }

/-- The counter of a real round counts the candidate and the granters of the round; these are distinct voters,
    and each has a recorded vote for the candidate in the round's term (`rq_same`, `rp_vote`). -/
theorem Inv.round_quorum {cfg : Config} {c : Cluster} (hi : Inv cfg c) {k : CallId} {q : RVReq} (hk : (k, q) ∈ c.requests)
    (hp : q.prevote = false) {cnt : Nat} (hcnt : cnt ≤ 1 + countG c.granters k.1 k.2.1) (hq : cfg.hasQuorum cnt = true) :
    VoteQuorum cfg c.votes q.term k.1 := by
  have hg : ∀ v, v ∈ roundVoters c.granters k.1 k.2.1 → v ≠ k.1 ∧ cfg.isVoter v = true ∧ (q.term, v, k.1) ∈ c.votes := by
    intro v hv
    obtain ⟨q', hm⟩ := mem_roundVoters.mp hv
    obtain ⟨hreq, _, r, hrep, hgr⟩ := hi.gr_req _ _ hm
    obtain ⟨st, sp⟩ := hi.rq_same k q _ q' hk hreq rfl rfl
    have := hi.rp_vote _ _ r hrep hgr (sp.trans hp)
    rw [st, hi.rq_cand _ _ hreq] at this
    exact ⟨(hi.rq_voter _ _ hreq).2.1, (hi.rq_voter _ _ hreq).1, this⟩
  refine ⟨k.1 :: roundVoters c.granters k.1 k.2.1, List.nodup_cons.mpr ⟨fun hm => (hg _ hm).1 rfl, roundVoters_nodup hi.gr_nodup _ _⟩,
    List.forall_mem_cons.mpr ⟨⟨(hi.rq_voter k q hk).2.2, hi.rq_self k q hk hp⟩, fun v hv => (hg v hv).2⟩, ?_⟩
  rw [List.length_cons, roundVoters_length]; exact hasQuorum_mono cfg (Nat.add_comm 1 _ ▸ hcnt) hq

theorem OtherStep.ok {n n' : Node} (h : OtherStep n n') : NodeStepOK n n' :=
  ⟨h.id_eq, h.config_eq, ⟨h.term_le, fun e => .inl (h.vote_keep e)⟩, h.nextRound_le⟩

theorem CrashStep.ok {n n' : Node} (h : CrashStep n n') : NodeStepOK n n' :=
  ⟨h.id_eq, h.config_eq, ⟨Nat.le_of_eq h.term_eq.symm, fun _ => .inl h.vote_eq⟩, h.nextRound_le⟩

theorem inv_deliver {cfg : Config} (hc : CfgOK cfg) {c : Cluster} (hi : Inv cfg c) {k : CallId} {q : RVReq} {now : Nat}
    {n' : Node} {r : RVResp} {eff : List Effect} (hk : (k, q) ∈ c.requests)
    (hrv : requestVote (c.nodes k.2.2) now q = some (n', r, eff)) :
    Inv cfg { (c.withNode k.2.2 n') with replies := (k, q, r) :: c.replies } := by
  have hcand : q.candidate ≠ 0 := hi.rq_cand k q hk ▸ voter_ne_zero hc (hi.rq_voter k q hk).2.2
  obtain ⟨f1, f2, f3, f4, f5⟩ := requestVote_frame hrv
  have h1 := hi.quiet (n' := n') ⟨f1, f2, requestVote_tv hrv, Nat.le_of_eq f4.symm⟩ (fun _ h => f3 ▸ h) f5
  refine h1.reply hk fun hg hp => ?_
  -- the granted vote is the voter's current vote, which `cur_vote` finds in the history
  obtain ⟨g1, g3⟩ := requestVote_granted hrv hg hp
  have := h1.cur_vote k.2.2
  rw [withNode_same, g1, g3] at this
  exact this hcand

theorem inv_ret {cfg : Config} {c : Cluster} (hi : Inv cfg c) {k : CallId} {q : RVReq} {r : RVResp} (now : Nat)
    (hk : (k, q) ∈ c.requests) (hr : (k, q, r) ∈ c.replies) (hnr : k ∉ c.returned) :
    Inv cfg { (c.withNode k.1 ((c.nodes k.1).onVoteReply now k.2.2 k.2.1 q (some r)).1) with
              returned := k :: c.returned,
              granters := (if r.granted then [(k, q)] else []) ++ c.granters } := by
  have sp := onVoteReply_spec (c.nodes k.1) now k.2.2 k.2.1 q r
  generalize ((c.nodes k.1).onVoteReply now k.2.2 k.2.1 q (some r)).1 = n' at sp ⊢
  -- first the call returns and its grant is counted in the history, then the caller moves
  have h1 := hi.counted hk hr hnr
  have hrd : ∀ x ∈ n'.rvRounds, x ∈ (c.nodes k.1).rvRounds ∨
      (x.1 < n'.nextRound ∧ x.2 ≤ 1 + countG ((if r.granted then [(k, q)] else []) ++ c.granters) k.1 x.1) := by
    intro x hm
    rcases sp.rounds with hs | ⟨hgr, hs⟩
    · exact .inl (hs ▸ hm)
    · rcases bumpRound_mem (hs ▸ hm) with ⟨e1, c0, hc0, e2⟩ | ⟨_, hold⟩
      · -- the bumped counter: one more grant counted, one more granter recorded
        refine .inr ⟨e1 ▸ Nat.lt_of_lt_of_le (hi.rd_lt _ _ _ hc0) sp.nextRound_le, ?_⟩
        rw [e1, e2, if_pos hgr, List.singleton_append, countG_cons_self]
        exact Nat.succ_le_succ (hi.rd_cnt k.1 k.2.1 c0 hc0)
      · exact .inl hold
  refine h1.node ⟨sp.id_eq, sp.config_eq, ⟨sp.term_le, fun h => .inl (sp.vote_keep h)⟩, sp.nextRound_le⟩ hrd fun hl hnew => ?_
  obtain ⟨np, hle, _, nq⟩ := sp.new_leader hl (hnew.resolve_right fun h => h (sp.leader_term hl).symm)
  have hqt : q.term = n'.term := sp.leader_term hl ▸ Nat.le_antisymm (hi.rq_term k q hk np) hle
  refine hqt ▸ h1.round_quorum hk np (cnt := roundCount n'.rvRounds k.2.1) ?_ (hi.cfgs k.1 ▸ nq)
  rcases roundCount_mem_or_zero n'.rvRounds k.2.1 with h0 | hm
  · exact h0 ▸ Nat.zero_le _
  · exact (hrd _ hm).elim (h1.rd_cnt k.1 _ _) (·.2)

theorem inv_election {cfg : Config} (hc : CfgOK cfg) {c : Cluster} (hi : Inv cfg c) (i now : Nat) :
    Inv cfg { (c.withNode i ((c.nodes i).election now).1) with
              requests := spawnedCalls ((c.nodes i).election now).1 (c.nodes i).nextRound ((c.nodes i).election now).2
                            ++ c.requests } := by
  have hidn := hi.ids i
  have out := election_outcome (c.nodes i) now (hi.cfgs i ▸ hc.two)
  generalize ((c.nodes i).election now).1 = n' at out ⊢
  generalize ((c.nodes i).election now).2 = eff at out ⊢
  cases out with
  | idle hn heff => subst hn heff; rw [withNode_self]; exact hi
  | round pv hid hcfg hrole hrd hnr hle hkeep hself heff hvi =>
    rw [hidn, hi.cfgs i] at hvi
    -- first the node numbers the round (and, for a real one, votes for itself), then it creates the calls
    have h1 : Inv cfg (c.withNode i n') := hi.node ⟨hid, hcfg, ⟨hle, fun h => .inl (hkeep h)⟩, hnr ▸ Nat.le_succ _⟩
      (hrd ▸ List.forall_mem_cons.mpr ⟨.inr ⟨hnr ▸ Nat.lt_succ_self _, Nat.le_add_right 1 _⟩, fun _ => .inl⟩)
      (fun h => absurd h hrole)
    refine h1.calls (i := i) (rid := (c.nodes i).nextRound) (T := if pv then n'.term + 1 else n'.term) (pv := pv)
      ?_ (by rw [withNode_same, hnr]; exact Nat.lt_succ_self _) hvi ?_ ?_
    · intro k q hm e; exact Nat.ne_of_lt (e ▸ hi.rq_round k q hm)
    · intro e
      have := h1.cur_vote i
      rw [withNode_same, (hself e).trans hidn] at this
      rw [withNode_same, e]; exact ⟨Nat.le_refl _, this (voter_ne_zero hc hvi)⟩
    · intro k q hm
      obtain ⟨peer, pv', he, hp, rfl⟩ := mem_spawnedCalls hm
      obtain ⟨rfl, e2⟩ := heff peer pv' he
      obtain ⟨p1, p2, p3, p4, _⟩ := prepareRV_some hp
      have hid' : n'.id = i := hid.trans hidn
      exact ⟨hid', rfl, (hcfg.trans (hi.cfgs i)) ▸ p4, hidn ▸ e2, p1.trans hid', p3, p2⟩

/-- Every step replaces (at most) one node and records its vote and its leadership; all else is call history. -/
theorem Step.nodes {c c' : Cluster} (h : Step c c') : ∃ i n', c'.nodes = c.setNode i n' ∧
    c'.votes = voteDelta i (c.nodes i) n' ++ c.votes ∧ c'.leaders = leaderDelta i (c.nodes i) n' ++ c.leaders := by
  cases h with
  | fail k q =>
    have e := (withNode_self c k.1).symm
    exact ⟨k.1, c.nodes k.1, congrArg Cluster.nodes e, congrArg Cluster.votes e, congrArg Cluster.leaders e⟩
  | _ => exact ⟨_, _, rfl, rfl, rfl⟩

theorem inv_step {cfg : Config} (hc : CfgOK cfg) {c c' : Cluster} (hi : Inv cfg c) (hs : Step c c') : Inv cfg c' := by
  cases hs with
  | election i now => exact inv_election hc hi i now
  | deliver k q now n' r eff hk hrv => exact inv_deliver hc hi hk hrv
  | ret k q r now hk hr hnr => exact inv_ret hi now hk hr hnr
  | fail k q hk hnr => exact hi.returned fun _ h => List.mem_cons_of_mem _ h
  | other i n' ho => exact hi.quiet ho.ok (fun _ h => ho.rounds_eq ▸ h) ho.no_new_leader
  | crash i n' hcr =>
    exact (hi.quiet hcr.ok (by rw [hcr.rounds_eq]; nofun) (by rw [hcr.role_eq]; nofun)).returned
      fun _ h => List.mem_append_right _ h

theorem inv_reachable {cfg : Config} (hc : CfgOK cfg) {init c : Cluster} (h0 : Inv cfg init) (hr : Reachable init c) : Inv cfg c := by
  induction hr with
  | base => exact h0
  | step _ hs ih => exact inv_step hc ih hs

/-- **Election safety**: two recorded leaderships of one term are the same node. -/
theorem election_safety {cfg : Config} {c : Cluster} (hi : Inv cfg c) (t a b : Nat)
    (ha : (t, a) ∈ c.leaders) (hb : (t, b) ∈ c.leaders) : a = b := by
  obtain ⟨Qa, a1, a2, a3⟩ := hi.ld_quorum t a ha
  obtain ⟨Qb, b1, b2, b3⟩ := hi.ld_quorum t b hb
  obtain ⟨v, va, vb⟩ := quorums_intersect cfg Qa Qb a1 b1 (fun v hv => (a2 v hv).1) (fun v hv => (b2 v hv).1) a3 b3
  exact hi.vote_uniq t v a b (a2 v va).2 (b2 v vb).2

end Cluster
end Raft
