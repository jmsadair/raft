/-
  Proofs/ReplSteps1.lean — every step of Model/Repl.lean but `timeout` is a composition of elementary updates that each
  preserve `Inv` (here and in ReplSteps2-4; `timeout` is proved directly: of its parts — to the next term as a follower,
  vote for itself, stand — the last touches every field that speaks of a role and is as long as the whole). Here: one node replaced, one more request, one more acknowledgement. An update of a
  ghost list alone is proved with `{ hi with … }`: the fields that do not mention the list are the old ones by unfolding.
-/
import RaftVerif.Proofs.ReplInv
namespace Raft
namespace Repl

@[simp] theorem setNode_same (s : AState) (i : Nat) (n : ANode) : setNode s i n i = n := if_pos rfl
theorem setNode_other (s : AState) {i j : Nat} (n : ANode) (h : j ≠ i) : setNode s i n j = s.nodes j := if_neg h

theorem setNode_all {P : Nat → ANode → Prop} {s : AState} {i : Nat} {n' : ANode} (hi : P i n') (hs : ∀ j, P j (s.nodes j)) (j : Nat) :
    P j (setNode s i n' j) := by
  by_cases h : j = i
  · subst h; rw [setNode_same]; exact hi
  · rw [setNode_other s n' h]; exact hs j

theorem setNode_rel {R : ANode → ANode → Prop} {s : AState} {i : Nat} {n' : ANode} (hi : R n' (s.nodes i)) (hr : ∀ n, R n n) :
    ∀ j, R (setNode s i n' j) (s.nodes j) :=
  setNode_all (P := fun j a => R a (s.nodes j)) hi fun _ => hr _

/-- The new node owes, against the old ghost history, what the invariant says of a node's log; the rest carries over. -/
theorem inv_setNode {cfg : Config} {s : AState} (hi : Inv cfg s) (i : Nat) (n' : ANode)
    (hterm : (s.nodes i).term ≤ n'.term)
    (hrole : n'.role = .follower ∨ (n'.role = (s.nodes i).role ∧ n'.term = (s.nodes i).term ∧ n'.log = (s.nodes i).log))
    (hshape : (∀ e ∈ n'.log, e.term ≤ n'.term) ∧ Sorted n'.log)
    (hlm : ∀ k, 1 ≤ k → k ≤ n'.log.length →
      ∃ c g, s.glog (termAt n'.log k) = some (c, g) ∧ k ≤ g.length ∧ n'.log.take k = g.take k)
    (hack : ∀ j t c g k, (i, j, t) ∈ s.acked → s.glog t = some (c, g) → 1 ≤ k → k ≤ j → termAt g k = t →
      n'.log.take k = g.take k ∨ Dead cfg s k t)
    (hcommit : n'.commit ≤ n'.log.length ∧ IsCommitted cfg s n'.term (n'.log.take n'.commit)) :
    Inv cfg { s with nodes := setNode s i n' } := by
  have hterms : ∀ j, (s.nodes j).term ≤ (setNode s i n' j).term :=
    setNode_rel (R := fun a b => b.term ≤ a.term) hterm fun _ => Nat.le_refl _
  -- whoever is not a follower afterwards was not touched
  have hkeep : ∀ j {r}, (setNode s i n' j).role = r → r ≠ .follower → (s.nodes j).role = r ∧
      (setNode s i n' j).term = (s.nodes j).term ∧ (setNode s i n' j).log = (s.nodes j).log :=
    fun j => setNode_rel (R := fun a b => ∀ {r}, a.role = r → r ≠ .follower → b.role = r ∧ a.term = b.term ∧ a.log = b.log)
      (fun hr h => by obtain ⟨h1, h2⟩ := hrole.resolve_left (hr ▸ h); exact ⟨h1 ▸ hr, h2⟩) (fun _ _ hr _ => ⟨hr, rfl, rfl⟩) j
  refine { hi with votes_term := ?_, rvs_term := ?_, votes_cand := ?_, self_vote := ?_, leader_glog := ?_, glog_term := ?_,
                   glog_cand := ?_, log_shape := ?_, cand_log := ?_, rvs_cand := ?_, node_lm := ?_, ack_ok := ?_,
                   ack_prefix := ?_, vote_prefix := ?_, commit_ok := ?_, role_pos := ?_ }
  · exact fun T m c h => Nat.le_trans (hi.votes_term T m c h) (hterms m)
  · exact fun q hq => Nat.le_trans (hi.rvs_term q hq) (hterms q.cand)
  · exact fun T m c h => Nat.le_trans (hi.votes_cand T m c h) (hterms c)
  · intro j hj
    obtain ⟨hr, ht, _⟩ := hkeep j rfl hj
    exact ht ▸ hi.self_vote j (hr ▸ hj)
  · intro j hj
    obtain ⟨hr, ht, hl⟩ := hkeep j hj nofun
    rw [ht, hl]; exact hi.leader_glog j hr
  · exact fun T c g h => Nat.le_trans (hi.glog_term T c g h) (hterms c)
  · intro T c g h ht hc
    obtain ⟨hr, ht', _⟩ := hkeep c hc nofun
    exact hi.glog_cand T c g h (ht' ▸ ht) hr
  · exact setNode_all (P := fun _ a => (∀ e ∈ a.log, e.term ≤ a.term) ∧ Sorted a.log) hshape hi.log_shape
  · intro j hj e he
    obtain ⟨hr, ht, hl⟩ := hkeep j hj nofun
    rw [ht]; exact hi.cand_log j hr e (hl ▸ he)
  · intro q hq hc ht
    obtain ⟨hr, ht', hl⟩ := hkeep q.cand hc nofun
    rw [hl]; exact hi.rvs_cand q hq hr (ht' ▸ ht)
  · exact setNode_all (P := fun _ a => ∀ k, 1 ≤ k → k ≤ a.log.length →
      ∃ c g, s.glog (termAt a.log k) = some (c, g) ∧ k ≤ g.length ∧ a.log.take k = g.take k) hlm hi.node_lm
  · exact fun m j t h => ⟨Nat.le_trans (hi.ack_ok m j t h).1 (hterms m), (hi.ack_ok m j t h).2⟩
  · exact setNode_all (P := fun m a => ∀ j t c g k, (m, j, t) ∈ s.acked → s.glog t = some (c, g) → 1 ≤ k → k ≤ j → termAt g k = t →
      a.log.take k = g.take k ∨ Dead cfg s k t) hack hi.ack_prefix
  · intro T m c t j c' g k hv hc hT hlt ha hg h1 hk hterm
    obtain ⟨hr, ht', hl⟩ := hkeep c hc nofun
    rw [hl]; exact hi.vote_prefix T m c t j c' g k hv hr (ht' ▸ hT) hlt ha hg h1 hk hterm
  · exact setNode_all (P := fun _ a => a.commit ≤ a.log.length ∧ IsCommitted cfg s a.term (a.log.take a.commit))
      hcommit hi.commit_ok
  · intro j hj
    obtain ⟨hr, ht, _⟩ := hkeep j rfl hj
    exact ht ▸ hi.role_pos j (hr ▸ hj)

/-- the log stays; the commit index may move to any committed prefix of it -/
theorem inv_node {cfg : Config} {s : AState} (hi : Inv cfg s) (i : Nat) (n' : ANode)
    (hlog : n'.log = (s.nodes i).log) (hterm : (s.nodes i).term ≤ n'.term)
    (hrole : n'.role = .follower ∨ (n'.role = (s.nodes i).role ∧ n'.term = (s.nodes i).term))
    (hcommit : n'.commit ≤ (s.nodes i).log.length ∧ IsCommitted cfg s n'.term ((s.nodes i).log.take n'.commit)) :
    Inv cfg { s with nodes := setNode s i n' } := by
  refine inv_setNode hi i n' hterm (hrole.imp_right fun h => ⟨h.1, h.2, hlog⟩) ?_ ?_ ?_ ?_ <;> rw [hlog]
  · exact ⟨fun e he => Nat.le_trans ((hi.log_shape i).1 e he) hterm, (hi.log_shape i).2⟩
  · exact hi.node_lm i
  · exact hi.ack_prefix i
  · exact hcommit

/-- the log stays and the commit index does not grow: also for a voter that keeps its role (`inv_grant`) -/
theorem inv_demote {cfg : Config} {s : AState} (hi : Inv cfg s) (i : Nat) (n' : ANode)
    (hlog : n'.log = (s.nodes i).log) (hterm : (s.nodes i).term ≤ n'.term)
    (hrole : n'.role = .follower ∨ (n'.role = (s.nodes i).role ∧ n'.term = (s.nodes i).term))
    (hcommit : n'.commit ≤ (s.nodes i).commit) :
    Inv cfg { s with nodes := setNode s i n' } := by
  obtain ⟨hc1, hc2⟩ := hi.commit_ok i
  refine inv_node hi i n' hlog hterm hrole ⟨Nat.le_trans hcommit hc1, ?_⟩
  exact (hc2.prefix (List.take_prefix_take_left hcommit)).mono (Ext.refl_of _ _ rfl rfl rfl) hterm

theorem inv_advanceCommit {cfg : Config} {s : AState} (hi : Inv cfg s) (l i : Nat) (Q : List Nat)
    (hl : (s.nodes l).role = .leader) (hil : i ≤ (s.nodes l).log.length) (hti : termAt (s.nodes l).log i = (s.nodes l).term)
    (hQ : IsQuorum cfg Q) (ha : ∀ m ∈ Q, ∃ j, i ≤ j ∧ (m, j, (s.nodes l).term) ∈ s.acked) :
    Inv cfg { s with nodes := setNode s l { s.nodes l with commit := max (s.nodes l).commit i } } := by
  obtain ⟨hc1, hc2⟩ := hi.commit_ok l
  refine inv_node hi l _ rfl (Nat.le_refl _) (Or.inr ⟨rfl, rfl⟩) ⟨Nat.max_le.mpr ⟨hc1, hil⟩, ?_⟩
  show IsCommitted cfg s (s.nodes l).term ((s.nodes l).log.take (max (s.nodes l).commit i))
  rcases Nat.le_total i (s.nodes l).commit with hle | hle
  · rw [Nat.max_eq_left hle]; exact hc2
  · rw [Nat.max_eq_right hle]
    rcases Nat.eq_zero_or_pos i with rfl | h1
    · exact Or.inl rfl
    · exact Or.inr ⟨i, _, l, _, Nat.le_refl _, hi.leader_glog l hl, h1, hil, hti, ⟨Q, hQ, ha⟩, List.prefix_refl _⟩

theorem inv_sendAE {cfg : Config} {s : AState} (hi : Inv cfg s) (l prev k stamp : Nat)
    (hl : (s.nodes l).role = .leader) (hp : prev ≤ (s.nodes l).log.length) :
    Inv cfg { s with aes := ⟨(s.nodes l).term, prev, termAt (s.nodes l).log prev, ((s.nodes l).log.drop prev).take k, (s.nodes l).commit, stamp⟩ :: s.aes } := by
  refine { hi with msg_ok := List.forall_mem_cons.mpr ⟨?_, hi.msg_ok⟩ }
  obtain ⟨hc1, hc2⟩ := hi.commit_ok l
  refine ⟨l, (s.nodes l).log, hi.leader_glog l hl, ?_, ?_, rfl, hc1, hc2⟩
  · calc prev + _ ≤ prev + ((s.nodes l).log.drop prev).length := Nat.add_le_add_left (List.length_take_le' _ _) _
      _ = (s.nodes l).log.length := by rw [List.length_drop, Nat.add_sub_of_le hp]
  · rw [List.length_take]; exact List.take_eq_take_min

theorem inv_addAck {cfg : Config} {s : AState} (hi : Inv cfg s) (n K t c : Nat) (g : List AEntry)
    (ht : (s.nodes n).term = t) (hg : s.glog t = some (c, g)) (hK : K ≤ g.length)
    (hpre : (s.nodes n).log.take K = g.take K) :
    Inv cfg { s with acked := (n, K, t) :: s.acked } := by
  have hext : Ext s { s with acked := (n, K, t) :: s.acked } :=
    .of_ack rfl rfl (Nat.le_of_eq ht) fun t c g h => ⟨g, h, List.prefix_refl g⟩
  refine { hi with msg_ok := ?_, ack_ok := ?_, ack_prefix := ?_, lc := ?_, vote_prefix := ?_, commit_ok := ?_ }
  · intro a ha
    obtain ⟨c, g, h1, h2, h3, h4, h5, h6⟩ := hi.msg_ok a ha
    exact ⟨c, g, h1, h2, h3, h4, h5, h6.mono hext (Nat.le_refl _)⟩
  · exact forall_mem_cons₃ ⟨Nat.le_of_eq ht.symm, c, g, hg, hK⟩ hi.ack_ok
  · intro v j t' c' g' k h hg' h1 hk hterm
    rcases List.mem_cons.mp h with h | hold
    · cases h; cases hg.symm.trans hg'
      exact Or.inl (take_eq_of_le hpre hk)
    · exact (hi.ack_prefix v j t' c' g' k hold hg' h1 hk hterm).imp_right (Dead.mono hi hext)
  · exact fun T c gT t c' g k hT ht hlt h1 hk hterm => (hi.lc T c gT t c' g k hT ht hlt h1 hk hterm).imp_right (Dead.mono hi hext)
  · intro T v c1 t' j c' g' k hv hcand hT hlt h hg' h1 hk hterm
    rcases List.mem_cons.mp h with h | hold
    · -- a node that voted in `T` does not acknowledge in an earlier term any more
      cases h; exact absurd (ht ▸ hi.votes_term T _ c1 hv) (Nat.not_le_of_lt hlt)
    · exact (hi.vote_prefix T v c1 t' j c' g' k hv hcand hT hlt hold hg' h1 hk hterm).imp_right (Dead.mono hi hext)
  · exact fun j => ⟨(hi.commit_ok j).1, (hi.commit_ok j).2.mono hext (Nat.le_refl _)⟩

end Repl
end Raft
