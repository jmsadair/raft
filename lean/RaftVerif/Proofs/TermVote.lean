/-
  Proofs/TermVote.lean — durability of term and vote, once for all critical sections.

  The `setState` effects of an effect list are read as the chain of persisted (term, vote) pairs
  (`persistAfter`, `TVChain`, together `TVRun`): a legal chain never lowers the term and never replaces a
  non-empty vote within a term (`TVStep`). A *section* is any function
  `Node → Option (Node × List Effect × Option Grant)`; it is `Good` when its effects are a legal chain that
  ends in the node's (term, vote) and a grant it reports is that pair. Executions (`Exec`) run sections or
  cut them by a crash after any number of their effects. What an execution keeps true is that the grants sent
  so far fit the node's pair (`VotesOK`, the same notion the cluster invariant uses for a voter's vote history):
  one vote per term and monotone terms follow for arbitrary lists of good sections, so that each handler only
  has to be shown good.
-/
import RaftVerif.Proofs.NodeLemmas
namespace Raft

/-- The persisted (term, vote) pair after a list of effects, starting from `p`. -/
def persistAfter (p : Nat × Nat) : List Effect → Nat × Nat
  | [] => p
  | .setState t v :: es => persistAfter (t, v) es
  | _ :: es => persistAfter p es

/-- One allowed change of the persisted pair. -/
def TVStep (p p' : Nat × Nat) : Prop := p.1 ≤ p'.1 ∧ (p'.1 = p.1 → p'.2 = p.2 ∨ p.2 = 0)

theorem TVStep.refl (p : Nat × Nat) : TVStep p p := ⟨Nat.le_refl _, fun _ => Or.inl rfl⟩

theorem TVStep.trans {a b c : Nat × Nat} (h1 : TVStep a b) (h2 : TVStep b c) : TVStep a c :=
  ⟨Nat.le_trans h1.1 h2.1, fun h => by
    have hb : b.1 = a.1 := Nat.le_antisymm (h ▸ h2.1) h1.1
    rcases h1.2 hb with e | e
    · rcases h2.2 (h.trans hb.symm) with e' | e'
      · exact .inl (e'.trans e)
      · exact .inr (e.symm.trans e')
    · exact .inr e⟩

/-- Every `setState` of the list is an allowed step from the pair persisted before it. -/
def TVChain (p : Nat × Nat) : List Effect → Prop
  | [] => True
  | .setState t v :: es => TVStep p (t, v) ∧ TVChain (t, v) es
  | _ :: es => TVChain p es

/-- Only `setState` matters to the persisted pair and to the chain condition. (The one place where all
    constructors of `Effect` are looked at.) -/
theorem Effect.setState_or_skip (e : Effect) : (∃ t v, e = .setState t v) ∨
    ∀ p es, persistAfter p (e :: es) = persistAfter p es ∧ TVChain p (e :: es) = TVChain p es := by
  cases e with
  | setState t v => exact .inl ⟨t, v, rfl⟩
  | _ => exact .inr fun _ _ => ⟨rfl, rfl⟩

theorem TVChain.persistAfter_step {p : Nat × Nat} {es : List Effect} (h : TVChain p es) :
    TVStep p (persistAfter p es) := by
  induction es generalizing p with
  | nil => exact TVStep.refl p
  | cons e es ih =>
    rcases e.setState_or_skip with ⟨t, v, rfl⟩ | hs
    · exact TVStep.trans h.1 (ih h.2)
    · simp only [hs] at h ⊢; exact ih h

theorem persistAfter_append (p : Nat × Nat) (es fs : List Effect) :
    persistAfter p (es ++ fs) = persistAfter (persistAfter p es) fs := by
  induction es generalizing p with
  | nil => rfl
  | cons e es ih =>
    rw [List.cons_append]
    rcases e.setState_or_skip with ⟨t, v, rfl⟩ | hs
    · exact ih _
    · simp only [hs]; exact ih _

theorem TVChain.append_iff {p : Nat × Nat} {es fs : List Effect} :
    TVChain p (es ++ fs) ↔ TVChain p es ∧ TVChain (persistAfter p es) fs := by
  induction es generalizing p with
  | nil => exact ⟨fun h => ⟨trivial, h⟩, fun h => h.2⟩
  | cons e es ih =>
    rw [List.cons_append]
    rcases e.setState_or_skip with ⟨t, v, rfl⟩ | hs
    · exact (and_congr_right fun _ => ih).trans and_assoc.symm
    · simp only [hs]; exact ih

theorem TVChain.append {p : Nat × Nat} {es fs : List Effect} (h1 : TVChain p es)
    (h2 : TVChain (persistAfter p es) fs) : TVChain p (es ++ fs) := append_iff.mpr ⟨h1, h2⟩

theorem TVChain.take {p : Nat × Nat} {es : List Effect} (h : TVChain p es) (k : Nat) : TVChain p (es.take k) :=
  (append_iff.mp (by rwa [List.take_append_drop])).1

def TVRun (p : Nat × Nat) (es : List Effect) (p' : Nat × Nat) : Prop := TVChain p es ∧ persistAfter p es = p'

theorem TVRun.step {p p' : Nat × Nat} {es : List Effect} (h : TVRun p es p') : TVStep p p' :=
  h.2 ▸ h.1.persistAfter_step

theorem TVRun.append {p p' p'' : Nat × Nat} {es fs : List Effect} (h1 : TVRun p es p') (h2 : TVRun p' fs p'') :
    TVRun p (es ++ fs) p'' := by
  obtain ⟨c1, rfl⟩ := h1
  exact ⟨c1.append h2.1, (persistAfter_append ..).trans h2.2⟩

theorem TVRun.quiet {p : Nat × Nat} {es : List Effect} (h : ∀ t v, Effect.setState t v ∉ es) : TVRun p es p := by
  induction es with
  | nil => exact ⟨trivial, rfl⟩
  | cons e es ih =>
    have ih := ih fun t v hm => h t v (List.mem_cons_of_mem _ hm)
    rcases e.setState_or_skip with ⟨t, v, rfl⟩ | hs
    · exact absurd List.mem_cons_self (h t v)
    · unfold TVRun; simp only [hs]; exact ih

theorem TVRun.setState {p : Nat × Nat} {t v : Nat} {es : List Effect} {p' : Nat × Nat}
    (hs : TVStep p (t, v)) (h : TVRun (t, v) es p') : TVRun p (.setState t v :: es) p' := ⟨⟨hs, h.1⟩, h.2⟩

theorem Node.MaybeFollows.tvRun {n : Node} {now t : Nat} {r : Node × List Effect} (h : n.MaybeFollows now t r) :
    TVRun (n.term, n.votedFor) r.2 (r.1.term, r.1.votedFor) := by
  cases h with
  | stay => exact ⟨trivial, rfl⟩
  | follow l hle =>
    obtain ⟨rest, hr, hrest⟩ := n.becomeFollower_snd now l t
    rw [hr]
    refine .setState ⟨hle, fun ht => .inl (if_neg ?_)⟩ (.quiet fun t v hm => ?_)
    · exact Nat.not_lt.mpr (Nat.le_of_eq ht)
    · rcases hrest _ hm with h | h | h <;> cases h

/-- A real (non-prevote) vote as seen by a candidate: term and candidate. -/
structure Grant where
  term : Nat
  cand : Nat
deriving DecidableEq, Repr

abbrev Sect := Node → Option (Node × List Effect × Option Grant)

/-- What every critical section has to satisfy for term/vote durability. -/
structure Sect.Good (f : Sect) : Prop where
  run : ∀ n n' eff g, f n = some (n', eff, g) → TVRun (n.term, n.votedFor) eff (n'.term, n'.votedFor)
  grant : ∀ n n' eff t c, f n = some (n', eff, some ⟨t, c⟩) → n'.term = t ∧ n'.votedFor = c ∧ c ≠ 0

/-- The form `rvSect` and `aeSect` have: a handler `h`, with the grant `g` read off its reply. -/
theorem Sect.Good.of_handler {α : Type} {h : Node → Option (Node × α × List Effect)} {g : α → Option Grant}
    (run : ∀ {n n' r eff}, h n = some (n', r, eff) → TVRun (n.term, n.votedFor) eff (n'.term, n'.votedFor))
    (grant : ∀ {n n' r eff t c}, h n = some (n', r, eff) → g r = some ⟨t, c⟩ → n'.term = t ∧ n'.votedFor = c ∧ c ≠ 0) :
    Sect.Good fun n => (h n).map fun x => (x.1, x.2.2, g x.2.1) := by
  have key : ∀ {n n' eff gr}, ((h n).map fun x => (x.1, x.2.2, g x.2.1)) = some (n', eff, gr) →
      ∃ r, h n = some (n', r, eff) ∧ g r = gr := by
    intro n n' eff gr hh
    obtain ⟨x, hr, hx⟩ := Option.map_eq_some_iff.mp hh
    cases hx; exact ⟨_, hr, rfl⟩
  exact ⟨fun _ _ _ _ hh => let ⟨_, hr, _⟩ := key hh; run hr, fun _ _ _ _ _ hh => let ⟨_, hr, hg⟩ := key hh; grant hr hg⟩

/-- A stimulus: run a section to completion, or crash after `k` of its effects (`k` counts all
    effects, not only storage writes) and restart as *some* node `r` (log, volatile state: arbitrary). -/
inductive Stim
  | run (f : Sect)
  | crashIn (f : Sect) (k : Nat) (r : Node)

structure Trace where
  node : Node
  grants : List Grant

/-- One step of a node's life. A crash cuts the section's effect list after `k`
    effects; the restarted node holds exactly the pair persisted by that prefix; the
    section's reply (and so its grant) is never sent.
    Modelling assumption: the prefix is replayed from the node's in-memory pair, i.e. at the start of
    every section the disk holds what memory holds. -/
inductive Exec : Trace → Stim → Trace → Prop
  | run {s : Trace} {f : Sect} {n' eff g} :
      f s.node = some (n', eff, g) → Exec s (.run f) ⟨n', g.toList ++ s.grants⟩
  | refused {s : Trace} {f : Sect} : f s.node = none → Exec s (.run f) s
  | crash {s : Trace} {f : Sect} {k : Nat} {r n' : Node} {eff g} :
      f s.node = some (n', eff, g) →
      (r.term, r.votedFor) = persistAfter (s.node.term, s.node.votedFor) (eff.take k) →
      Exec s (.crashIn f k r) ⟨r, s.grants⟩
  | crashIdle {s : Trace} {f : Sect} {k : Nat} {r : Node} :
      f s.node = none → (r.term, r.votedFor) = (s.node.term, s.node.votedFor) →
      Exec s (.crashIn f k r) ⟨r, s.grants⟩

def Stim.Good : Stim → Prop
  | .run f => f.Good
  | .crashIn f _ _ => f.Good

inductive Execs : Trace → List Stim → Trace → Prop
  | nil (s) : Execs s [] s
  | cons {s s' s'' st sts} : Exec s st s' → Execs s' sts s'' → Execs s (st :: sts) s''

/-- The votes in `P` (term, candidate) fit the persisted pair `p`: none is empty or of a later term, those of
    the current term are the current vote, and no term has two candidates. The cluster's vote history of one
    voter (`Cluster.Inv`) and a node's sent grants (`Trace`) are both kept in this shape by every `TVStep`. -/
structure VotesOK (P : Nat → Nat → Prop) (p : Nat × Nat) : Prop where
  nz : ∀ {t x}, P t x → x ≠ 0
  le : ∀ {t x}, P t x → t ≤ p.1
  cur : ∀ {t x}, P t x → t = p.1 → p.2 = x
  uniq : ∀ {t x y}, P t x → P t y → x = y

/-- The pair moves by a `TVStep`; the only vote that may be added is the new pair itself. -/
theorem VotesOK.step {P P' : Nat → Nat → Prop} {p p' : Nat × Nat} (h : VotesOK P p) (hs : TVStep p p')
    (hP : ∀ t x, P' t x → P t x ∨ (t = p'.1 ∧ x = p'.2 ∧ x ≠ 0)) : VotesOK P' p' := by
  -- every vote, old or new, fits the new pair; an old vote of the new pair's term means the term did not
  -- move, so it was the old pair's vote, which a `TVStep` keeps unless it was empty
  have fit : ∀ {t x}, P' t x → x ≠ 0 ∧ t ≤ p'.1 ∧ (t = p'.1 → p'.2 = x) := fun {t x} hx => by
    rcases hP t x hx with h1 | ⟨e1, e2, h0⟩
    · refine ⟨h.nz h1, Nat.le_trans (h.le h1) hs.1, fun ht => ?_⟩
      have e : p'.1 = p.1 := Nat.le_antisymm (ht ▸ h.le h1) hs.1
      have hc := h.cur h1 (ht.trans e)
      exact (hs.2 e).elim (·.trans hc) fun h2 => absurd (hc ▸ h2) (h.nz h1)
    · exact ⟨h0, Nat.le_of_eq e1, fun _ => e2.symm⟩
  refine ⟨fun hx => (fit hx).1, fun hx => (fit hx).2.1, fun hx => (fit hx).2.2, fun {t x y} hx hy => ?_⟩
  rcases hP t x hx with h1 | ⟨t1, x1, _⟩
  · rcases hP t y hy with h2 | ⟨t2, y2, _⟩
    · exact h.uniq h1 h2
    · rw [y2, (fit hx).2.2 t2]
  · rw [x1, (fit hy).2.2 t1]

/-- No two grants of one term name different candidates. -/
def UniqueVotes (gs : List Grant) : Prop := ∀ g1 ∈ gs, ∀ g2 ∈ gs, g1.term = g2.term → g1.cand = g2.cand

def Trace.OK (s : Trace) : Prop := VotesOK (fun t c => ⟨t, c⟩ ∈ s.grants) (s.node.term, s.node.votedFor)

theorem Trace.OK.unique {s : Trace} (h : s.OK) : UniqueVotes s.grants :=
  fun _ h1 _ h2 ht => h.uniq (t := _) h1 (ht ▸ h2)

theorem exec_ok {s s' : Trace} {st : Stim} (hg : st.Good) (he : Exec s st s') (hi : s.OK) :
    s'.OK ∧ s.node.term ≤ s'.node.term := by
  have keep : ∀ {r : Node}, TVStep (s.node.term, s.node.votedFor) (r.term, r.votedFor) →
      Trace.OK ⟨r, s.grants⟩ ∧ s.node.term ≤ r.term := fun hs => ⟨hi.step hs fun _ _ h => .inl h, hs.1⟩
  cases he with
  | @run f n' eff g hf =>
    have hs := (hg.run _ _ _ _ hf).step
    refine ⟨hi.step hs ?_, hs.1⟩
    intro t x hx
    rcases List.mem_append.mp hx with hx | hx
    · cases Option.mem_toList.mp hx
      obtain ⟨e1, e2, e3⟩ := hg.grant _ _ _ t x hf
      exact .inr ⟨e1.symm, e2.symm, e3⟩
    · exact .inl hx
  | refused hf => exact ⟨hi, Nat.le_refl _⟩
  | @crash f k r n' eff g hf hr => exact keep (hr ▸ ((hg.run _ _ _ _ hf).1.take k).persistAfter_step)
  | @crashIdle f k r hf hr => exact keep (hr ▸ TVStep.refl _)

theorem execs_ok {s s' : Trace} {sts : List Stim} (hg : ∀ st ∈ sts, st.Good) (he : Execs s sts s') (hi : s.OK) :
    s'.OK ∧ s.node.term ≤ s'.node.term := by
  induction he with
  | nil s => exact ⟨hi, Nat.le_refl _⟩
  | cons h1 _ ih =>
    obtain ⟨hi1, hm1⟩ := exec_ok (hg _ List.mem_cons_self) h1 hi
    obtain ⟨a, b⟩ := ih (fun st' h => hg st' (List.mem_cons_of_mem _ h)) hi1
    exact ⟨a, Nat.le_trans hm1 b⟩

end Raft
