/-
  Properties/C17.lean — lease-based reads.

  In the model the lease is renewed by `tryApplyReadOnly` alone (a reading of Model/Leader.lean,
  not a theorem), i.e. when a round of requests of the current term has collected replies from
  a strict majority counted over voters only (C05_nonvoter_never_confirms,
  C05_other_term_reply_ignored), for `leaseDur` from that moment; a lease read is answered with
  data only while the lease is valid at the serve section, otherwise with the invalid-lease error.
  The real-time argument under the
  timing assumption (lease + delay ≤ election timeout, stickiness of the confirming voters:
  C16_sticky_refuses) is proved on the timed replication-layer model (Proofs/ReplLease.lean):
  while a lease is valid there is no leader of a later term, and a lease read contains every
  earlier commit (`C17_no_later_leader_under_lease`, `C17_lease_read_fresh`). The tie to the
  code is E4: walks with the delay bound enforced.
-/
import RaftVerif.Properties.C05
import RaftVerif.Proofs.ReplLeaseExample
namespace Raft
open Node

/-- Renewal sets the expiry exactly one lease duration ahead; validity is strict. -/
theorem C17_renew_arithmetic (n : Node) (now seq later : Nat) :
    (n.tryApplyReadOnly now seq).1.leaseValid later = true ↔ later < now + n.leaseDur :=
  decide_eq_true_iff

/-- **A lapsed lease is never served from**: at the serve section a lease read gets data
    only under a valid lease; what is served while the lease has lapsed is a read that did not ask for it
    (the lease read gets the invalid-lease answer: `readOnlyStep`, not part of the statement). -/
theorem C17_lapsed_rejected (n : Node) (now t : Nat) (hl : n.leaseValid now = false)
    (h : ReadOut.served t ∈ (n.readOnlyStep now).2) :
    ∃ r ∈ n.pendingReads, r.tag = t ∧ r.lease = false := by
  obtain ⟨_, _, r, hr, ht, _, _, hlease⟩ := C05_served_requires n now t h
  refine ⟨r, hr, ht, ?_⟩
  cases hh : r.lease with
  | false => rfl
  | true => nomatch (hlease hh).symm.trans hl

/-- A new leader that is not the sole voter starts with a lapsed lease: it must be confirmed before any lease
    read (a sole voter renews the lease in `becomeLeader` itself: the single-server path of `sendAEToPeers`). -/
theorem C17_new_leader_has_no_lease (n : Node) (now : Nat) (h1 : n.config.isSingle n.id = false) :
    (n.becomeLeader now).1.leaseValid now = false := by
  obtain ⟨k, h, hs⟩ := becomeLeader_node n now
  rw [h, (hs h1).2.1]
  exact decide_eq_false (Nat.lt_irrefl _)

/-- Stepping down (any path through `becomeFollower`) drops the lease. -/
theorem C17_follower_has_no_lease (n : Node) (now l t : Nat) : (n.becomeFollower now l t).1.leaseValid now = false :=
  decide_eq_false (Nat.lt_irrefl now)

/-! Non-vacuity: lease of 100 renewed at 1000 is valid at 1099 and lapsed at 1100. -/
example : (({ id := 1, leaseDur := 100 } : Node).tryApplyReadOnly 1000 0).1.leaseValid 1099 = true ∧
          (({ id := 1, leaseDur := 100 } : Node).tryApplyReadOnly 1000 0).1.leaseValid 1100 = false := by decide

/-- **While a lease is valid there is no leader of a later term.** Timely runs of the timed
    replication-layer model (Model/ReplLease.lean): a node votes only `ET` after it last
    answered a replication request (the stickiness guard), a leader uses an answer only within
    `D` of building the request, the lease runs `LD` from the moment the round reaches its
    quorum; `LD + D ≤ ET`. -/
theorem C17_no_later_leader_under_lease {cfg : Config} (hnd : cfg.voterIds.Nodup) {ET LD D : Nat} (hT : LD + D ≤ ET)
    {l : Repl.LState} (hreach : Repl.LReachable cfg ET LD D l) (ldr : Nat) (hv : Repl.LeaseValid l ldr) :
    ∀ T' c g, l.r.s.glog T' = some (c, g) → T' ≤ (l.r.s.nodes ldr).term :=
  Repl.no_later_leader_under_lease hnd hT hreach ldr hv

/-- **Lease reads are fresh while the timing assumption holds.** A read registered at the lease
    holder and answered under a valid lease, with the read index applied, contains every commit
    made by any leader before the read was registered. -/
theorem C17_lease_read_fresh {cfg : Config} (hnd : cfg.voterIds.Nodup) {ET LD D : Nat} (hT : LD + D ≤ ET)
    {l : Repl.LState} (hreach : Repl.LReachable cfg ET LD D l) (rd : Repl.Read) (a : Nat) (hrd : rd ∈ l.r.reads)
    (hv : Repl.LeaseValid l rd.leader) (hterm : (l.r.s.nodes rd.leader).term = rd.term) (hri : rd.readIndex ≤ a) :
    ∀ e ∈ l.r.commitAt, e.time < rd.time → e.index ≤ a ∧ e.pre <+: (l.r.s.nodes rd.leader).log.take a :=
  Repl.lease_read_fresh hnd hT hreach rd a hrd hv hterm hri

/-- non-vacuity: a timely run (ET = 10, LD = 5, D = 5) reaches a state with a valid lease -/
example : Repl.LReachable Repl.cfg3 10 5 5 Repl.v7 ∧ Repl.LeaseValid Repl.v7 1 :=
  ⟨Repl.v7_reachable, Repl.v7_lease_valid.1⟩

end Raft
