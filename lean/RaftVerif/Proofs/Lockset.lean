/-
  Proofs/Lockset.lean — why the lock discipline of Properties/C20.lean excludes data races.

  A trace is a list of events of threads over one mutex (newest first): acquire, release,
  access of a location. It is *well-locked* when acquire happens only on a free mutex and
  release only by the holder (what sync.Mutex guarantees / requires of its users). If an
  access by thread t1 and a later access by another thread t2 both happen with the mutex
  held, then between them t1 releases and afterwards t2 acquires: the accesses are ordered
  by the mutex's release→acquire edge, so in the Go memory model they do not race.
-/
namespace Raft.Lockset

inductive Ev
  | acq (t : Nat)
  | rel (t : Nat)
  | access (t : Nat) (loc : Nat) (write : Bool)
deriving DecidableEq, Repr

/-- holder of the mutex after the trace (`none` = free) -/
def holder : List Ev → Option Nat
  | [] => none
  | .acq t :: _ => some t
  | .rel _ :: _ => none
  | .access .. :: es => holder es

def WellLocked : List Ev → Prop
  | [] => True
  | .acq _ :: es => WellLocked es ∧ holder es = none
  | .rel t :: es => WellLocked es ∧ holder es = some t
  | .access .. :: es => WellLocked es

theorem wellLocked_tail {e : Ev} {es : List Ev} (h : WellLocked (e :: es)) : WellLocked es := by
  cases e with
  | acq t => exact h.1
  | rel t => exact h.1
  | access t l w => exact h

/-- a holder that no longer holds has released in between -/
theorem released (earlier : List Ev) (t1 : Nat) (h1 : holder earlier = some t1) :
    ∀ later, WellLocked (later ++ earlier) → holder (later ++ earlier) ≠ some t1 →
      ∃ l2 l3, later = l2 ++ [Ev.rel t1] ++ l3 := by
  intro later
  induction later with
  | nil => exact fun _ h => absurd h1 h
  | cons e es ih =>
    intro hw hne
    by_cases hstill : holder (es ++ earlier) = some t1
    · -- `t1` still held before `e` and not after it: `e` is its release
      cases e with
      | acq t => exact absurd (hw.2 ▸ hstill) (by simp)
      | access t l w => exact absurd hstill hne
      | rel t =>
        obtain rfl : t = t1 := Option.some.inj (hw.2 ▸ hstill)
        exact ⟨[], es, rfl⟩
    · obtain ⟨l2, l3, rfl⟩ := ih (wellLocked_tail hw) hstill
      exact ⟨e :: l2, l3, rfl⟩

/-- **Lockset soundness**: two accesses under the mutex by different threads are separated by
    a release of the first thread followed by an acquire of the second. -/
theorem release_acquire_between (earlier : List Ev) (t1 t2 : Nat) (hne : t1 ≠ t2) (h1 : holder earlier = some t1) :
    ∀ later, WellLocked (later ++ earlier) → holder (later ++ earlier) = some t2 →
      ∃ l1 l2 l3, later = l1 ++ [Ev.acq t2] ++ l2 ++ [Ev.rel t1] ++ l3 := by
  intro later
  induction later with
  | nil => intro _ h2; exact absurd (Option.some.inj (h1.symm.trans h2)) hne
  | cons e es ih =>
    intro hw h2
    have hw' := wellLocked_tail hw
    cases e with
    | access t l w =>
      obtain ⟨l1, l2, l3, rfl⟩ := ih hw' h2
      exact ⟨Ev.access t l w :: l1, l2, l3, rfl⟩
    | rel t => nomatch h2
    | acq t =>
      obtain rfl : t = t2 := Option.some.inj h2
      -- the mutex was free before this acquire: `t1` has released
      obtain ⟨l2, l3, rfl⟩ := released earlier t1 h1 es hw' (fun h => absurd (hw.2 ▸ h) (by simp))
      exact ⟨[], l2, l3, rfl⟩

/-- the hypotheses are satisfiable: thread 1 writes under the lock, then thread 2 reads under it -/
example : WellLocked ([Ev.access 2 7 false, Ev.acq 2, Ev.rel 1] ++ [Ev.access 1 7 true, Ev.acq 1]) ∧
    holder [Ev.access 1 7 true, Ev.acq 1] = some 1 ∧
    holder ([Ev.access 2 7 false, Ev.acq 2, Ev.rel 1] ++ [Ev.access 1 7 true, Ev.acq 1]) = some 2 := by
  simp [WellLocked, holder]

end Raft.Lockset
