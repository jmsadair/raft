/-
  Properties/C03.lean — futures of replicated operations tell the truth.

  For every node state: a submission is registered under exactly the index at which its
  entry (leader's term, submitted bytes) was appended; the apply loop answers a
  registration only when it applies the log entry at that very index, with that entry;
  `becomeFollower`, `stepdown` and `becomeLeader`, the ways a running node leaves or enters
  leadership, drop all registrations, so nothing registered in an earlier stint is answered
  later (`stop` followed by `start` keeps them, as `Stop()` and `Start()` keep the operation
  manager in the code: no theorem here speaks of that path). The submission section emits no
  truncation (nor do `becomeLeader` and the commit loop: C07_leader_never_truncates), so the
  entry under a live registration is the submitted one. Cluster level, on the
  replication-layer model: what a leader has committed keeps its position in every later
  state (`C03_acknowledged_position_is_final`), and an operation submitted after another was
  acknowledged comes later in the order or never completes (`C03_real_time_order`). The
  client-history tie is E4 (multiple clients, any target, timeouts, leader change between
  submit and apply).
-/
import RaftVerif.Proofs.LeaderSpecs
import RaftVerif.Proofs.ReplSafety
import RaftVerif.Proofs.ReplOrder
import RaftVerif.Proofs.ReplExample
import RaftVerif.Properties.C07
namespace Raft
open Node

/-- **Registration.** A leader answers the submission with the index of the entry it just appended
    (the index it registers the future under: `submitReplicated` appends it to `pendingRep`, which the
    statement does not mention); that entry carries the leader's term and the submitted bytes. -/
theorem C03_registered_at_own_index (n : Node) (now data : Nat) (hl : n.role = .leader) (hw : n.log.WF) :
    let r := n.submitReplicated now data
    r.2.2 = .accepted n.log.nextIndex ∧
    r.1.log.get? n.log.nextIndex = some { index := n.log.nextIndex, term := n.term, kind := kOp, data := data } := by
  obtain ⟨m, hm, h⟩ := submitReplicated_leader n now data hl
  obtain ⟨k, hs, -⟩ := sendAEToPeers_node m now
  rw [h, hs]
  refine ⟨rfl, ?_⟩
  show m.log.get? _ = _
  rw [hm]
  have hc : Log.Contig n.log.lastIndex [n.submitEntry data] := ⟨rfl, trivial⟩
  exact get?_append_right hw hc (n.submitEntry data) List.mem_cons_self

/-- A non-leader refuses the submission and changes nothing. -/
theorem C03_not_leader_refused (n : Node) (now data : Nat) (hl : n.role ≠ .leader) :
    n.submitReplicated now data = (n, [], .notLeader) :=
  if_pos hl

/-- **Answering.** The apply loop hands out exactly the log entry at `lastApplied + 1`;
    it reports a registered future iff that index is registered, and consumes it. -/
theorem C03_answer_is_applied_entry (n : Node) (now : Nat) (e : Entry) (f : Bool)
    (h : (n.applyStep now).2.2 = .op e f) :
    n.log.get? (n.lastApplied + 1) = some e ∧ f = n.pendingRep.contains e.index ∧
    e.index ∉ (n.applyStep now).1.pendingRep :=
  let ⟨a, _, _, b, c⟩ := (applyStep_spec n now).2.2.2.2.2 e f h
  ⟨a, b, c⟩

/-- **No stale registration survives a change of leadership** on a running node (`stop` keeps `pendingRep`, as
    `Stop()` keeps the operation manager). -/
theorem C03_stepdown_drops_registrations (n : Node) (now l t : Nat) :
    (n.becomeFollower now l t).1.pendingRep = [] ∧ (n.stepdown now).1.pendingRep = [] ∧
    (n.becomeLeader now).1.pendingRep = [] :=
  ⟨rfl, rfl, by obtain ⟨k, h, -⟩ := becomeLeader_node n now; rw [h]⟩

/-- A leader never truncates its own log in the submission section. -/
theorem C03_leader_submission_never_truncates (n : Node) (now data i : Nat) :
    Effect.logTruncate i ∉ (n.submitReplicated now data).2.1 :=
  (C07_leader_never_truncates n now data i).2.1

/-- **An acknowledged operation keeps its position.** What a leader has committed (it answers a
    client only for entries at or below its commit index, C03_answer_is_applied_entry) is, in
    every later state, a prefix of — or extended by — the committed prefix of every node: the
    operation acknowledged at index `i` is the operation every replica applies at `i`. -/
theorem C03_acknowledged_position_is_final {cfg : Config} (hnd : cfg.voterIds.Nodup) {s s' : Repl.AState}
    (hr : Repl.Reachable cfg s) (hfrom : Repl.ReachableFrom cfg s s') (leader b : Nat) :
    (s.nodes leader).log.take (s.nodes leader).commit <+: (s'.nodes b).log.take (s'.nodes b).commit ∨
    (s'.nodes b).log.take (s'.nodes b).commit <+: (s.nodes leader).log.take (s.nodes leader).commit :=
  Repl.state_machine_safety hnd hr hfrom leader b

/-! ### Real-time order (Proofs/ReplOrder.lean)

    "Operation A completed before operation B was invoked" is a fact about the state in which B is
    appended: a position (i1, T1) of a leader log, of that leader's own term, acknowledged by a quorum,
    covers A's index. -/

/-- **An operation submitted after another one was acknowledged comes later in the order — or never
    completes.** Appended by a leader of a term at least T1 (the same leader or a later one) it gets an
    index beyond i1; appended by a deposed leader that does not know it yet (term below T1) it lands on
    a position no quorum will ever acknowledge. -/
theorem C03_real_time_order {cfg : Config} (hnd : cfg.voterIds.Nodup) {s : Repl.AState} (hr : Repl.Reachable cfg s)
    (l payload : Nat) (hl : (s.nodes l).role = .leader)
    (i1 T1 c1 : Nat) (g1 : List Repl.AEntry) (hg1 : s.glog T1 = some (c1, g1)) (h1 : 1 ≤ i1) (hi1 : i1 ≤ g1.length)
    (ht1 : Repl.termAt g1 i1 = T1) (hq : Repl.QuorumAcked cfg s i1 T1) :
    (T1 ≤ (s.nodes l).term → i1 < (s.nodes l).log.length + 1) ∧
    ((s.nodes l).term < T1 → ∀ s'', Repl.ReachableFrom cfg (Repl.appendState s l payload) s'' →
      ¬ Repl.QuorumAcked cfg s'' ((s.nodes l).log.length + 1) (s.nodes l).term) := by
  obtain ⟨h_a, h_b⟩ := Repl.append_after_commit hnd hr l payload hl i1 T1 c1 g1 hg1 h1 hi1 ht1 hq
  refine ⟨h_a, fun hlt s'' hfrom => ?_⟩
  have hr' := Repl.Reachable.step hr (Repl.appendState_step (cfg := cfg) s l payload hl)
  exact (Repl.dead_forever hnd hr' hfrom (h_b hlt)).2

/-- Non-vacuity (Proofs/ReplExample.lean): in `s7` leader 1 has committed index 2 of its term 1; the
    next operation it appends gets index 3. -/
example : (2 : Nat) < (Repl.s7.nodes 1).log.length + 1 := by
  have h := (C03_real_time_order Repl.cfg3_nodup Repl.s7_reachable 1 0 (by decide) 2 1 1 [⟨1, 0⟩, ⟨1, 42⟩]
    (by decide) (by decide) (by decide) (by decide)
    ⟨[1, 2], Repl.quorum12, fun m hm =>
      ⟨2, Nat.le_refl _, Repl.s7_acked m hm⟩⟩).1
  exact h (by decide)

end Raft
