/-
  Proofs/ReplOrder.lean — real-time order of replicated operations (C03), on the
  replication-layer model.

  "Committed before invoked" is a fact about the state in which the later operation is appended: some position
  (i1, T1) of a leader log, of that leader's own term, is acknowledged by a quorum. The later operation, appended
  by a leader of term T2, gets an index beyond i1 (T2 >= T1) or lands on a dead position (T2 < T1: a deposed
  leader that does not know it yet), which no quorum ever acknowledges (`C03_real_time_order`).
-/
import RaftVerif.Proofs.ReplSafety
namespace Raft
namespace Repl

def appendState (s : AState) (l payload : Nat) : AState := { s with
  nodes := setNode s l { s.nodes l with log := (s.nodes l).log ++ [⟨(s.nodes l).term, payload⟩] },
  glog := fun t => if t = (s.nodes l).term then some (l, (s.nodes l).log ++ [⟨(s.nodes l).term, payload⟩]) else s.glog t,
  acked := (l, (s.nodes l).log.length + 1, (s.nodes l).term) :: s.acked }

theorem appendState_step {cfg : Config} (s : AState) (l payload : Nat) (hl : (s.nodes l).role = .leader) :
    Step cfg s (appendState s l payload) := Step.clientAppend s l payload hl

/-- **An operation appended after another one committed comes later in the order, or never
    commits.** -/
theorem append_after_commit {cfg : Config} (hnd : cfg.voterIds.Nodup) {s : AState} (hr : Reachable cfg s)
    (l payload : Nat) (hl : (s.nodes l).role = .leader)
    (i1 T1 c1 : Nat) (g1 : List AEntry) (hg1 : s.glog T1 = some (c1, g1)) (h1 : 1 ≤ i1) (hi1 : i1 ≤ g1.length)
    (ht1 : termAt g1 i1 = T1) (hq : QuorumAcked cfg s i1 T1) :
    (T1 ≤ (s.nodes l).term → i1 < (s.nodes l).log.length + 1) ∧
    ((s.nodes l).term < T1 → Dead cfg (appendState s l payload) ((s.nodes l).log.length + 1) (s.nodes l).term) := by
  have hi := inv_reachable hnd hr
  have hlg := hi.leader_glog l hl
  constructor
  · -- the log of a leader of the same or a later term holds the acknowledged position
    intro hle
    have := (hi.lc_le hlg hg1 hle h1 hi1 ht1).resolve_right (not_dead_of_quorumAcked hnd hq)
    exact Nat.lt_succ_of_le (length_of_take_eq this hi1)
  · -- nobody acknowledged a position the deposed leader's log did not reach yet
    intro hlt
    exact (dead_of_not_acked hi hg1 hlt fun m j hmem => Nat.lt_succ_of_le (hi.ack_le hmem hlg)).mono hi
      (step_ext hnd hi (appendState_step s l payload hl))

theorem dead_forever {cfg : Config} (hnd : cfg.voterIds.Nodup) {s s' : AState} (hr : Reachable cfg s) (hfrom : ReachableFrom cfg s s')
    {i t : Nat} (hd : Dead cfg s i t) : Dead cfg s' i t ∧ ¬ QuorumAcked cfg s' i t := by
  have hd' := hd.mono (inv_reachable hnd hr) (reachableFrom_ext hnd hr hfrom).1
  exact ⟨hd', fun hq => not_dead_of_quorumAcked hnd hq hd'⟩

end Repl
end Raft
