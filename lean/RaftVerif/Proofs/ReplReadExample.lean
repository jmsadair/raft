/-
  Proofs/ReplReadExample.lean — non-vacuity of `linearizable_read`: a reachable state of the
  timed model in which a read registered after a commit can be served (the guard holds); and of
  `reads_never_go_backwards`: the same run continued by a second read.
-/
import RaftVerif.Proofs.ReplRead
import RaftVerif.Proofs.ReplExample
namespace Raft
namespace Repl

def t1 : RState := { rinit with s := timeoutS rinit.s 1, now := rinit.now + 1,
                                voteAt := ((rinit.s.nodes 1).term + 1, 1, 1, rinit.now) :: rinit.voteAt }
theorem ts1 : RStep cfg3 rinit t1 := RStep.timeout rinit 1 (by decide)

def t2 : RState := { t1 with s := grantS t1.s 2 q1, now := t1.now + 1, voteAt := (q1.term, 2, q1.cand, t1.now) :: t1.voteAt }
theorem ts2 : RStep cfg3 t1 t2 :=
  RStep.grant t1 2 q1 (by decide) (by decide) (by intro c h; simp [t1, rinit, init, timeoutS, q1] at h) (by right; decide)

def t3 : RState := { t2 with s := becomeLeaderS t2.s 1, now := t2.now + 1, electAt := ((t2.s.nodes 1).term, 1, t2.now) :: t2.electAt }
theorem ts3 : RStep cfg3 t2 t3 :=
  RStep.becomeLeader t2 1 [1, 2] (by decide) quorum12 (by decide)

def t4 : RState := { t3 with s := clientAppendS t3.s 1 42, now := t3.now + 1 }
theorem ts4 : RStep cfg3 t3 t4 := RStep.clientAppend t3 1 42 (by decide)

def t5 : RState := { t4 with s := sendAES t4.s 1 0 2 t4.now, now := t4.now + 1 }
theorem ts5 : RStep cfg3 t4 t5 := RStep.sendAE t4 1 0 2 (by decide) (by decide)

def m5 : AEMsg := ⟨1, 0, 0, [⟨1, 0⟩, ⟨1, 42⟩], 0, 4⟩
def t6 : RState := { t5 with s := recvAEokS t5.s 2 m5, now := t5.now + 1, hbAck := (2, m5.term, m5.stamp, t5.now) :: t5.hbAck }
theorem ts6 : RStep cfg3 t5 t6 := RStep.recvAEok t5 2 m5 (by decide) (by decide) (Or.inl (by decide)) (by decide) (by decide)

def ev7 : CommitEv := ⟨1, (t6.s.nodes 1).term, max (t6.s.nodes 1).commit 2, (t6.s.nodes 1).log.take (max (t6.s.nodes 1).commit 2), t6.now⟩
def t7 : RState := { t6 with s := advanceCommitS t6.s 1 2, now := t6.now + 1, commitAt := ev7 :: t6.commitAt }
theorem ts7 : RStep cfg3 t6 t7 :=
  RStep.advanceCommit t6 1 2 [1, 2] (by decide) (by decide) (by decide) quorum12
    (by intro m hm; simp at hm; rcases hm with h | h <;> subst h <;> exact ⟨2, by decide, by decide⟩)

def rd8 : Read := ⟨1, 1, 2, 7⟩
def t8 : RState := { t7 with now := t7.now + 1, reads := ⟨1, (t7.s.nodes 1).term, readIndexOf (t7.s.nodes 1), t7.now⟩ :: t7.reads }
theorem ts8 : RStep cfg3 t7 t8 := RStep.readSubmit t7 1 (by decide)

def t9 : RState := { t8 with s := sendAES t8.s 1 2 0 t8.now, now := t8.now + 1 }
theorem ts9 : RStep cfg3 t8 t9 := RStep.sendAE t8 1 2 0 (by decide) (by decide)

def m9 : AEMsg := ⟨1, 2, 1, [], 2, 8⟩
def t10 : RState := { t9 with s := recvAEokS t9.s 2 m9, now := t9.now + 1, hbAck := (2, m9.term, m9.stamp, t9.now) :: t9.hbAck }
theorem ts10 : RStep cfg3 t9 t10 := RStep.recvAEok t9 2 m9 (by decide) (by decide) (Or.inl (by decide)) (by decide) (by decide)

theorem t10_reachable : RReachable cfg3 t10 :=
  .step (.step (.step (.step (.step (.step (.step (.step (.step (.step .base ts1) ts2) ts3) ts4) ts5) ts6) ts7) ts8) ts9) ts10

/-- the read registered at time 7, after the commit of time 6, can be served at time 10 -/
theorem t10_can_serve : CanServe cfg3 t10 rd8 2 [1, 2] := by
  -- node 1 is the leader itself; node 2 answered at 9 a request stamped 8
  exact ⟨by decide, by decide, by decide, by decide, by decide, by decide, quorum12,
    List.forall_mem_cons.mpr ⟨.inl rfl, List.forall_mem_cons.mpr ⟨.inr ⟨8, 9, by decide, by decide⟩, nofun⟩⟩⟩

/-- and a commit lies before it: the theorem's conclusion is about something -/
theorem t10_has_earlier_commit : ∃ e ∈ t10.commitAt, e.time < rd8.time ∧ e.index = 2 := by
  refine ⟨⟨1, 1, 2, [⟨1, 0⟩, ⟨1, 42⟩], 6⟩, by decide, by decide, rfl⟩

/-! Non-vacuity of `reads_never_go_backwards` (Proofs/ReplReadMono.lean): the run continued by a second read.

  The first read (registered at 7) is served in `t10` (time 10). A second read is registered at
  time 10, the leader sends an empty request (stamp 11), node 2 answers: the second read can be
  served in `t13`, and the premises of the theorem hold for the pair. -/

def rd11 : Read := ⟨1, 1, 2, 10⟩
def t11 : RState := { t10 with now := t10.now + 1, reads := ⟨1, (t10.s.nodes 1).term, readIndexOf (t10.s.nodes 1), t10.now⟩ :: t10.reads }
theorem ts11 : RStep cfg3 t10 t11 := RStep.readSubmit t10 1 (by decide)

def t12 : RState := { t11 with s := sendAES t11.s 1 2 0 t11.now, now := t11.now + 1 }
theorem ts12 : RStep cfg3 t11 t12 := RStep.sendAE t11 1 2 0 (by decide) (by decide)

def m12 : AEMsg := ⟨1, 2, 1, [], 2, 11⟩
def t13 : RState := { t12 with s := recvAEokS t12.s 2 m12, now := t12.now + 1, hbAck := (2, m12.term, m12.stamp, t12.now) :: t12.hbAck }
theorem ts13 : RStep cfg3 t12 t13 := RStep.recvAEok t12 2 m12 (by decide) (by decide) (Or.inl (by decide)) (by decide) (by decide)

theorem t13_from_t10 : RReachableFrom cfg3 t10 t13 := .step (.step (.step .base ts11) ts12) ts13

theorem t13_can_serve : CanServe cfg3 t13 rd11 2 [1, 2] := by
  -- node 1 is the leader itself; node 2 answered at 12 a request stamped 11
  exact ⟨by decide, by decide, by decide, by decide, by decide, by decide, quorum12,
    List.forall_mem_cons.mpr ⟨.inl rfl, List.forall_mem_cons.mpr ⟨.inr ⟨11, 12, by decide, by decide⟩, nofun⟩⟩⟩

example : t10.now ≤ rd11.time := by decide

end Repl
end Raft
