/-
  Proofs/Quorum.lean — quorums of one configuration intersect: two duplicate-free sets of voters that each pass
  `hasQuorum` (a strict majority of the voters) share a member. Used by both cluster-level safety proofs (as is `forall_mem_cons₃`, a list fact that has no other home).
-/
import RaftVerif.Model.Types
namespace Raft

theorem Config.isVoter_iff_mem (cfg : Config) (v : Nat) : cfg.isVoter v = true ↔ v ∈ cfg.voterIds := by
  simp only [Config.isVoter, Config.voterIds, List.any_eq_true, Bool.and_eq_true, beq_iff_eq, List.mem_map, List.mem_filter]
  exact ⟨fun ⟨m, hm, h1, h2⟩ => ⟨m, ⟨hm, h2⟩, h1⟩, fun ⟨m, ⟨hm, h2⟩, h1⟩ => ⟨m, hm, h1, h2⟩⟩

theorem Config.voterIds_length (cfg : Config) : cfg.voterIds.length = cfg.voters := by simp [Config.voterIds, Config.voters]

/-- how a clause over a ghost list of triples survives one more recorded element -/
theorem forall_mem_cons₃ {α β γ : Type} {P : α → β → γ → Prop} {a : α} {b : β} {c : γ} {l : List (α × β × γ)}
    (new : P a b c) (old : ∀ x y z, (x, y, z) ∈ l → P x y z) : ∀ x y z, (x, y, z) ∈ (a, b, c) :: l → P x y z :=
  fun x y z h => (List.mem_cons.mp h).elim (fun e => by cases e; exact new) (old x y z)

theorem Config.hasQuorum_iff (cfg : Config) (n : Nat) : cfg.hasQuorum n = true ↔ cfg.voters / 2 < n := decide_eq_true_iff

/-- pigeonhole -/
theorem exists_common_of_length_gt {V Q1 Q2 : List Nat} (h1 : Q1.Nodup) (h2 : Q2.Nodup) (s1 : Q1 ⊆ V) (s2 : Q2 ⊆ V)
    (h : V.length < Q1.length + Q2.length) : ∃ v, v ∈ Q1 ∧ v ∈ Q2 :=
  Classical.byContradiction fun hex => by
    have hnd : (Q1 ++ Q2).Nodup := List.nodup_append.mpr ⟨h1, h2, fun a ha b hb hab => hex ⟨a, ha, hab ▸ hb⟩⟩
    have := hnd.length_le_of_subset (List.append_subset.mpr ⟨s1, s2⟩)
    rw [List.length_append] at this
    omega

namespace Cluster

theorem hasQuorum_mono (cfg : Config) {a b : Nat} (h : a ≤ b) (ha : cfg.hasQuorum a = true) : cfg.hasQuorum b = true :=
  (cfg.hasQuorum_iff b).mpr (Nat.lt_of_lt_of_le ((cfg.hasQuorum_iff a).mp ha) h)

/-- The voter list itself may repeat ids: the hypothesis `voterIds.Nodup` that every cluster-level statement carries
    is not needed here. -/
theorem quorums_intersect (cfg : Config) (Q1 Q2 : List Nat) (h1 : Q1.Nodup) (h2 : Q2.Nodup)
    (s1 : ∀ v ∈ Q1, cfg.isVoter v = true) (s2 : ∀ v ∈ Q2, cfg.isVoter v = true)
    (q1 : cfg.hasQuorum Q1.length = true) (q2 : cfg.hasQuorum Q2.length = true) : ∃ v, v ∈ Q1 ∧ v ∈ Q2 := by
  refine exists_common_of_length_gt (V := cfg.voterIds) h1 h2 (fun v hv => (cfg.isVoter_iff_mem v).mp (s1 v hv))
    (fun v hv => (cfg.isVoter_iff_mem v).mp (s2 v hv)) ?_
  rw [cfg.voterIds_length]
  rw [Config.hasQuorum_iff] at q1 q2
  omega

end Cluster
end Raft
