/-
  Properties/C13.lean — term/vote storage and snapshot storage are atomic.

  Term/vote: `SetState` is the program  create tmp; write tmp header; write tmp body;
  rename tmp state.bin  (E2 checks this against the syscalls of the real code). For every
  crash point — after any call, or at any byte inside either write — state.bin holds
  either exactly what it held before or exactly the complete new record, and the new
  record decodes to the value written (C19). So if state.bin read as `old` before a `SetState new`,
  a reopen after a crash anywhere inside it reads `old` or `new`, never anything else, never an
  error (`C13_state_reopen`; one write, no induction over a sequence of writes is stated).

  Snapshots: a writer works in a `tmp-snapshot*` directory that only `Close` renames to a
  `snapshot-<n>` name; readers list `snapshot-<n>` names only and every constructor first
  removes `tmp*` entries. The directory-level model below states that what a reopen sees
  is exactly the closed snapshots, each complete.
-/
import RaftVerif.Model.FS
import RaftVerif.Properties.C19
import RaftVerif.Proofs.DecOrder
namespace Raft.FS
open Raft.Bytes Raft.Codec

/-- The system calls of `SetState(term, vote)` with temporary file `tmp`. -/
def setStateProg (tmp : String) (s : SState) : List Sys :=
  [.create tmp, .append tmp (be32 (encodeStateBody s).length), .append tmp (encodeStateBody s), .rename tmp "state.bin"]

theorem setState_runs (fs : FS) (tmp : String) (s : SState) (hfresh : fs tmp = none) :
    run fs (setStateProg tmp s) "state.bin" = some (frame (encodeStateBody s)) := by
  simp [run, setStateProg, Sys.apply, hfresh, frame]

/-- **C13, atomic term/vote write.** At every crash point of `SetState`, state.bin is
    the old file or the complete new record. -/
theorem C13_state_atomic (fs : FS) (tmp : String) (s : SState) (hne : tmp ≠ "state.bin") (hfresh : fs tmp = none)
    (k cut : Nat) :
    crashImage fs (setStateProg tmp s) k cut "state.bin" = fs "state.bin" ∨
    crashImage fs (setStateProg tmp s) k cut "state.bin" = some (frame (encodeStateBody s)) := by
  match k with
  | 0 | 1 | 2 | 3 => left; simp [crashImage, setStateProg, run, Sys.apply, hne.symm]
  | k + 4 =>
    right
    have : crashImage fs (setStateProg tmp s) (k + 4) cut = run fs (setStateProg tmp s) := by
      simp [crashImage, setStateProg, run]
    rw [this]; exact setState_runs fs tmp s hfresh

/-- What `State()` returns for a state.bin content (absent file: term 0, no vote). -/
def readState : Option Bytes → Option SState
  | none => some { term := 0, votedFor := [] }
  | some bs =>
    match readBe32 bs with
    | none => none
    | some (len, rest) => if rest.length < len then none else decodeStateBody (rest.take len)

def StateOK (s : SState) : Prop := U64 s.term ∧ U64 s.votedFor.length ∧ (encodeStateBody s).length < 2 ^ 32

theorem readState_frame (s : SState) (h : StateOK s) : readState (some (frame (encodeStateBody s))) = some s := by
  have := C19_frame_roundtrip (encodeStateBody s) [] h.2.2
  rw [List.append_nil] at this
  simp [readState, this, C19_state_record_roundtrip s h.1 h.2.1]

/-- **C13, reopen after a crash.** If state.bin currently reads as `old`, then after a
    crash anywhere inside `SetState new` a reopen reads `old` or `new` — and never fails. -/
theorem C13_state_reopen (fs : FS) (tmp : String) (old new : SState) (hne : tmp ≠ "state.bin") (hfresh : fs tmp = none)
    (hold : readState (fs "state.bin") = some old) (hnew : StateOK new) (k cut : Nat) :
    readState (crashImage fs (setStateProg tmp new) k cut "state.bin") = some old ∨
    readState (crashImage fs (setStateProg tmp new) k cut "state.bin") = some new := by
  rcases C13_state_atomic fs tmp new hne hfresh k cut with h | h
  · left; rw [h]; exact hold
  · right; rw [h]; exact readState_frame new hnew

structure Snap where
  name : Nat            -- the <n> of `snapshot-<n>`
  index : Nat
  term : Nat
  config : Bytes
  data : Bytes
deriving DecidableEq, Repr

structure SnapDir where
  visible : List Snap                 -- `snapshot-<n>` directories
  temps : List (Nat × Snap)           -- open writers: `tmp-snapshot*` directories (id, content so far)
deriving Repr

inductive SnapOp
  | new (w name index term : Nat) (config : Bytes)
  | write (w : Nat) (bs : Bytes)
  | close (w : Nat)
  | discard (w : Nat)

def SnapDir.step (d : SnapDir) : SnapOp → SnapDir
  | .new w name index term config => { d with temps := (w, ⟨name, index, term, config, []⟩) :: d.temps }
  | .write w bs => { d with temps := d.temps.map fun t => if t.1 = w then (t.1, { t.2 with data := t.2.data ++ bs }) else t }
  | .close w =>
    match d.temps.find? (·.1 = w) with
    | some t => { visible := d.visible ++ [t.2], temps := d.temps.filter (·.1 ≠ w) }
    | none => d
  | .discard w => { d with temps := d.temps.filter (·.1 ≠ w) }

/-- Reopening removes every `tmp*` directory; readers see the visible ones only. -/
def SnapDir.reopen (d : SnapDir) : SnapDir := { d with temps := [] }

/-- **C13, no partial snapshot is ever visible.** Whatever happens to open writers
    (a new one, further writes cut anywhere, discard), the visible snapshots are unchanged: no
    operation but `close` touches them. -/
theorem C13_snap_visible_only_closed (d : SnapDir) (op : SnapOp) :
    (∀ w, op ≠ .close w) → (d.step op).visible = d.visible := by
  intro h
  cases op with
  | close w => exact absurd rfl (h w)
  | _ => rfl

/-- `close` adds exactly one visible snapshot: the writer's content so far, complete. -/
theorem C13_snap_close_complete (d : SnapDir) (w : Nat) (t : Nat × Snap) (h : d.temps.find? (·.1 = w) = some t) :
    (d.step (.close w)).visible = d.visible ++ [t.2] := by
  simp [SnapDir.step, h]

theorem C13_snap_reopen (d : SnapDir) : d.reopen.visible = d.visible ∧ d.reopen.temps = [] := ⟨rfl, rfl⟩

/-! Non-vacuity -/
example : StateOK { term := 7, votedFor := [49] } := by unfold StateOK U64; decide
example : readState (some (frame (encodeStateBody { term := 7, votedFor := [49] }))) = some { term := 7, votedFor := [49] } := by decide

/-! ## "The most recent" snapshot: directory names sort by creation time

  A published snapshot lives in `snapshot-<UnixNano>`; `SnapshotFile()` opens the last name of
  the directory listing, which is in byte-wise order of the names (Proofs/DecOrder.lean). For
  time stamps of one width — nineteen digits: 2001-09-09 to 2286-11-20 — that order is the
  order of creation, and two snapshots have the same name only if they were created in the
  same nanosecond. Names of different widths do NOT sort numerically (`snapshot-10` comes
  before `snapshot-9`): the names must stay time stamps. -/

/-- the name of the directory of a snapshot published at `t` (UnixNano) -/
def snapName (t : Nat) : List Nat := Raft.Meta.str "snapshot-" ++ Raft.Meta.encDec t

theorem C13_snapshot_names_sort_by_time (t1 t2 : Nat) (h1 : 10 ^ 18 ≤ t1) (h1' : t1 < 10 ^ 19)
    (h2 : 10 ^ 18 ≤ t2) (h2' : t2 < 10 ^ 19) :
    (Raft.Meta.lexLt (snapName t1) (snapName t2) = true ↔ t1 < t2) ∧ (snapName t1 = snapName t2 ↔ t1 = t2) := by
  unfold snapName
  rw [Raft.Meta.lexLt_prefix, List.append_cancel_left_eq]
  exact Raft.Meta.encDec_order 18 t1 t2 (by decide) h1 h1' h2 h2'

/-- the width matters: labelled by a log index, the snapshot of index 10 would sort before that of 9 -/
theorem C13_names_of_different_width_do_not_sort :
    Raft.Meta.lexLt (snapName 10) (snapName 9) = true :=
  (Raft.Meta.lexLt_prefix _ _ _).trans Raft.Meta.encDec_order_fails_across_widths

example : (10 : Nat) ^ 18 ≤ 1790000000000000000 ∧ 1790000000000000000 < 10 ^ 19 := by decide

end Raft.FS
