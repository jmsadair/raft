/-
  Properties/C15.lean — liveness: the deterministic ingredients (PARTIAL by nature).

  Timer randomness ("some election timer fires alone") is outside the model. Proved, for
  every node state: every rejection of an AppendEntries request moves the leader's next
  index strictly toward agreement (the hint is at most the rejected previous index) or
  tells it the follower's compaction boundary; a sole voter (with or without non-voting
  members) wins its election in one step, in a new term; a member learned from an applied
  configuration gets a usable next index. Cluster level, on the replication-layer model
  (Proofs/ReplProgress.lean): from every reachable state a continuation exists, linear in the
  number of voters, after which one voter leads, has committed its whole log and every voter
  holds it, nothing committed before being lost (`C15_convergence_possible` and the three
  theorems after it). That the continuation happens is E4: every walk ends with a fault-free
  period after which exactly one leader must exist, a fresh operation must complete and every
  running member must hold the leader's applied sequence.
-/
import RaftVerif.Proofs.AppendEntries
import RaftVerif.Proofs.ElectionLemmas
import RaftVerif.Proofs.ReplProgress
import RaftVerif.Proofs.ReplExample
namespace Raft
open Node Log

/-- **Every rejection makes progress.** The hint of a rejected request is either at most
    the rejected previous index (the leader's next index, `prevIndex + 1`, strictly
    decreases) or it is the follower's compaction boundary plus one (the next request then
    starts exactly at the boundary). -/
theorem C15_hint_progress (n : Node) (q : AEReq) (h : Nat) (hr : aePrevCheck n q = .reject h) (hp : 0 < q.prevIndex) :
    h ≤ q.prevIndex ∨ (n.snapIndex > q.prevIndex ∧ h = n.snapIndex + 1) := by
  rcases aePrevCheck_reject hr with h1 | ⟨h1, rfl⟩ | ⟨h1, rfl⟩ | ⟨-, pe, i, -, hc, rfl⟩
  · exact .inr h1
  · exact .inl h1
  · exact .inl (Nat.le_of_eq h1)
  · exact .inl (Nat.add_le_of_le_sub hp (conflictScan_le _ _ _ _ _ hc))

/-- **A sole voter leads at once**, in a term of its own, whatever non-voting members the
    configuration has (after the `fix:` commits for S15 and S25). -/
theorem C15_sole_voter_wins (n : Node) (now : Nat) (hs : n.config.isSingle n.id = true) (hr : n.role = .follower)
    (hstale : n.contactFresh now = false) :
    (n.election now).1.role = .leader ∧ (n.election now).1.term = n.term + 1 ∧ (n.election now).1.votedFor = n.id :=
  sole_voter_wins n now hs (by simp [Idle, hr, hstale, (Bool.and_eq_true_iff.mp hs).2])

/-- **A learned member can be replicated to** (after the `fix:` for S27): the replication
    state created for a member first seen in an applied configuration starts at index 1. -/
theorem C15_learned_member_next_index (n : Node) (now : Nat) (c : Config) (i : Nat)
    (hnew : n.config.isMember i = false) (hin : i ∈ c.memberIds) (hself : c.isMember n.id = true) :
    ∃ f ∈ (n.nextConfiguration now (some c)).1.followers, f.id = i ∧ f.next = 1 := by
  unfold nextConfiguration
  simp only [hself, if_true]
  exact ⟨{ id := i, next := 1 }, List.mem_append_right _ (List.mem_map.mpr ⟨i, List.mem_filter.mpr ⟨hin, by simp [hnew]⟩, rfl⟩),
    rfl, rfl⟩

/-! ### Cluster level (Proofs/ReplProgress.lean): no reachable state is a dead end

    Liveness proper needs the timers and a network that eventually delivers; that is checked by
    the fault-free periods of E4. What a theorem can say — and says here for EVERY reachable state
    of the replication-layer model, whatever crashes, partitions, lost / duplicated / reordered
    messages, competing candidates and half-done replications produced it — is that the
    continuation a fault-free period allows exists: no combination of terms, votes, logs and
    commit indices can wedge the protocol. -/

/-- **From every reachable state the cluster can converge**: there is a continuation after
    which one voter leads a term above all earlier ones, has committed its whole log including
    a new entry of that term, and every voter holds the same log, commit index and term. -/
theorem C15_convergence_possible {cfg : Config} (hnd : cfg.voterIds.Nodup) (hne : cfg.voterIds ≠ []) {s : Repl.AState}
    (hr : Repl.Reachable cfg s) :
    ∃ s' l T, Repl.ReachableFrom cfg s s' ∧ cfg.isVoter l = true ∧ (s'.nodes l).role = .leader ∧ (s'.nodes l).term = T ∧
      (∀ v, cfg.isVoter v = true → (s.nodes v).term < T) ∧
      (s'.nodes l).log = (s.nodes l).log ++ [⟨T, 0⟩] ∧
      (∀ v, cfg.isVoter v = true → (s'.nodes v).log = (s'.nodes l).log ∧
        (s'.nodes v).commit = (s'.nodes l).log.length ∧ (s'.nodes v).term = T) :=
  Repl.progress_possible hnd hne hr

/-- **… within a number of steps that is linear in the number of voters and independent of how far
    behind anyone is.** The continuation of `C15_convergence_possible` has at most `5·|voters| + 4`
    steps (one voter learns a term, times out; the others grant; it becomes leader; one request and
    one answer per other voter carry the whole log, however long; it commits; one empty request and
    one answer per other voter carry the commit index): the statement's "bounded number of election
    timeouts … however far behind, whether it needs log repair or a snapshot of any size", as far as
    a model without timers can say it. -/
theorem C15_convergence_within_linearly_many_steps {cfg : Config} (hnd : cfg.voterIds.Nodup) (hne : cfg.voterIds ≠ [])
    {s : Repl.AState} (hr : Repl.Reachable cfg s) :
    ∃ s' l T k, k ≤ 5 * cfg.voterIds.length + 4 ∧ Repl.ReachableIn cfg s k s' ∧ cfg.isVoter l = true ∧
      (s'.nodes l).role = .leader ∧ (s'.nodes l).term = T ∧
      (∀ v, cfg.isVoter v = true → (s.nodes v).term < T) ∧
      (s'.nodes l).log = (s.nodes l).log ++ [⟨T, 0⟩] ∧
      (∀ v, cfg.isVoter v = true → (s'.nodes v).log = (s'.nodes l).log ∧
        (s'.nodes v).commit = (s'.nodes l).log.length ∧ (s'.nodes v).term = T) :=
  Repl.progress_possible_in hnd hne hr

/-- … and nothing that was committed in the state the continuation starts from is undone on the
    way: ANY committed prefix (not only what a node's commit index says right now — a crash resets
    that) is a prefix of the common log at its end. -/
theorem C15_convergence_keeps_all_committed {cfg : Config} (hnd : cfg.voterIds.Nodup) (hne : cfg.voterIds ≠ []) {s : Repl.AState}
    (hr : Repl.Reachable cfg s) :
    ∃ s' l, Repl.ReachableFrom cfg s s' ∧ (s'.nodes l).role = .leader ∧
      (∀ v, cfg.isVoter v = true → (s'.nodes v).log = (s'.nodes l).log ∧ (s'.nodes v).commit = (s'.nodes l).log.length) ∧
      ∀ b P, Repl.IsCommitted cfg s b P → P <+: (s'.nodes l).log := by
  obtain ⟨s', l, T, hf, hv, hl, _, hTgt, hlog, hall⟩ := Repl.progress_possible hnd hne hr
  refine ⟨s', l, hf, hl, fun v h => ⟨(hall v h).1, (hall v h).2.1⟩, fun b P hP => ?_⟩
  have hr' := Repl.reachable_trans hr hf
  have hL := ((Repl.inv_reachable hnd hr').commit_ok l).2
  rw [(hall l hv).2.1, List.take_length] at hL
  refine (Repl.committed_comparable hnd hr' (Repl.committed_stable hnd hr hf hP) hL).resolve_right fun h => ?_
  -- the common log ends with an entry of the new term `T`, above every term a voter had before
  obtain ⟨v, hv1, hv2⟩ := Repl.committed_term_le_voter hnd (Repl.inv_reachable hnd hr) hP ⟨T, 0⟩ (h.subset (by rw [hlog]; simp))
  exact Nat.not_le.mpr (hTgt v hv1) hv2

/-- In particular nothing that was applied anywhere is undone on the way (C01 across the continuation):
    every prefix a node had committed before is a prefix of the common log afterwards. -/
theorem C15_convergence_keeps_committed {cfg : Config} (hnd : cfg.voterIds.Nodup) (hne : cfg.voterIds ≠ []) {s : Repl.AState}
    (hr : Repl.Reachable cfg s) :
    ∃ s' l, Repl.ReachableFrom cfg s s' ∧ (s'.nodes l).role = .leader ∧
      (∀ v, cfg.isVoter v = true → (s'.nodes v).log = (s'.nodes l).log ∧ (s'.nodes v).commit = (s'.nodes l).log.length) ∧
      ∀ a, (s.nodes a).log.take (s.nodes a).commit <+: (s'.nodes l).log := by
  obtain ⟨s', l, hf, hl, hall, hkeep⟩ := C15_convergence_keeps_all_committed hnd hne hr
  exact ⟨s', l, hf, hl, hall, fun a => hkeep _ _ ((Repl.inv_reachable hnd hr).commit_ok a).2⟩

/-- Non-vacuity: the example run of Proofs/ReplExample.lean (three voters, node 3 behind). -/
example : ∃ s' l T, Repl.ReachableFrom Repl.cfg3 Repl.s7 s' ∧ (s'.nodes l).role = .leader ∧ (s'.nodes l).term = T ∧
    (s'.nodes 3).log = (s'.nodes l).log ∧ (s'.nodes 3).commit = (s'.nodes l).log.length := by
  obtain ⟨s', l, T, hf, _, hl, hT, _, _, hall⟩ := C15_convergence_possible Repl.cfg3_nodup (by decide) Repl.s7_reachable
  exact ⟨s', l, T, hf, hl, hT, (hall 3 (by decide)).1, (hall 3 (by decide)).2.1⟩

end Raft
