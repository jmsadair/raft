/-
  Properties/C06.lean — log matching at handler level: AppendEntries only ever moves a
  log toward the sender's log.

  Every theorem quantifies over *all* node states and *all* requests (any term, any
  prev index/term, any entries, any leaderCommit, stale/duplicated/overlapping or
  not); `AEPre` (well-formed log, contiguous request entries) is needed only where the
  conclusion talks about positions in the log. The global statement ("same index and
  term ⇒ identical prefixes") is `C06_log_matching` at the end, on the replication-layer model.
-/
import RaftVerif.Proofs.AppendEntries
import RaftVerif.Proofs.ReplSafety
namespace Raft
open Log

/-- A rejected request leaves log, commit index, applied index and configuration unchanged. -/
theorem C06_reject_unchanged {n n' : Node} {now : Nat} {q : AEReq} {r : AEResp} {eff : List Effect}
    (h : appendEntries n now q = some (n', r, eff)) (hr : r.success = false) :
    n'.log = n.log ∧ n'.commitIndex = n.commitIndex ∧ n'.lastApplied = n.lastApplied ∧ n'.config = n.config := by
  have hf := aeEnter_follows n now q
  cases appendEntries_cases h with
  | stale => exact ⟨rfl, rfl, rfl, rfl⟩
  | reject | unreadable => exact ⟨hf.log, hf.commitIndex, hf.lastApplied, hf.config⟩
  | accept => cases hr

/-- The commit index never moves backwards, and never forwards past the entries verified to match the
    sender (`prevIndex + |entries|`) or past the sender's commit index. -/
theorem C06_commit_rule {n n' : Node} {now : Nat} {q : AEReq} {r : AEResp} {eff : List Effect}
    (h : appendEntries n now q = some (n', r, eff)) :
    n.commitIndex ≤ n'.commitIndex ∧
    n'.commitIndex ≤ max n.commitIndex (q.prevIndex + q.entries.length) ∧
    n'.commitIndex ≤ max n.commitIndex q.leaderCommit := by
  have hc : (aeEnter n now q).1.commitIndex = n.commitIndex := (aeEnter_follows n now q).commitIndex
  have same : ∀ {c a b : Nat}, c = n.commitIndex → n.commitIndex ≤ c ∧ c ≤ max n.commitIndex a ∧ c ≤ max n.commitIndex b :=
    fun h => h ▸ ⟨Nat.le_refl _, Nat.le_max_left .., Nat.le_max_left ..⟩
  cases appendEntries_cases h with
  | stale => exact same rfl
  | reject | unreadable => exact same hc
  | accept =>
    cases hm : mergeScan (aeEnter n now q).1.log q.entries with
    | fatal => rw [aeAccept_of_fatal now hm]; exact same hc
    | ok l1 tr ta =>
      -- the new commit index is `max commitIndex (min leaderCommit (prevIndex + |entries|))`
      rw [aeAccept_of_merge now hm]; dsimp only; rw [hc]
      have mono : ∀ {a b : Nat}, a ≤ b → max n.commitIndex a ≤ max n.commitIndex b :=
        fun h => Nat.max_le.mpr ⟨Nat.le_max_left .., Nat.le_trans h (Nat.le_max_right ..)⟩
      exact ⟨Nat.le_max_left .., mono (Nat.min_le_right ..), mono (Nat.min_le_left ..)⟩

/-- After an accepted request the log holds, at the index of every entry of the request, an entry
    of that entry's term (an entry already there with that term is kept as it is); nothing at
    or below `prevIndex` changes; an entry is kept unless a request entry at an index
    not above it conflicts in term; a truncation happens only at a genuine conflict
    above `prevIndex`; the section raises no fatal error and keeps the log well-formed. -/
theorem C06_accept {n n' : Node} {now : Nat} {q : AEReq} {r : AEResp} {eff : List Effect}
    (h : appendEntries n now q = some (n', r, eff)) (hr : r.success = true) (hp : AEPre n q) :
    Effect.fatal ∉ eff ∧ n'.log.WF ∧ n'.log.base = n.log.base ∧
    (∀ e ∈ q.entries, ∃ g, n'.log.get? e.index = some g ∧ g.term = e.term) ∧
    (∀ i, i ≤ q.prevIndex → n'.log.get? i = n.log.get? i) ∧
    (∀ i g, n.log.get? i = some g →
        (∀ e ∈ q.entries, e.index ≤ i → ∃ ex, n.log.get? e.index = some ex ∧ ex.term = e.term) →
        n'.log.get? i = some g) ∧
    (∀ c, Effect.logTruncate c ∈ eff → q.prevIndex < c ∧
        ∃ e ∈ q.entries, e.index = c ∧ ∃ ex, n.log.get? c = some ex ∧ ex.term ≠ e.term) := by
  have hf := aeEnter_follows n now q
  cases appendEntries_cases h with
  | stale | reject | unreadable => cases hr
  | accept _ hok =>
    obtain ⟨k1, k2, _, _⟩ := aePrevCheck_ok_iff.mp hok
    have hl : (aeEnter n now q).1.log = n.log := hf.log
    obtain ⟨l', t, app, hm, hw, hb, hpres, hall, hkeep, hts⟩ :=
      mergeScan_spec hp.wf q.entries q.prevIndex hp.contig (Nat.le_trans hp.base_le (hf.snapIndex ▸ k1)) (hl ▸ k2)
    rw [← hl] at hm
    -- the log after the section is `l'.append app`, whatever the configuration fallback does
    have hlog : (aeAccept (aeEnter n now q).1 now q).1.log = l'.append app := by rw [aeAccept_of_merge now hm]
    rw [hlog]
    refine ⟨fun hfat => ?_, hw, hb, hall, hpres, hkeep, fun c hc => ?_⟩
    · rcases mem_aeAccept hm ((List.mem_append.mp hfat).resolve_left hf.no_fatal) with ⟨_, _, h⟩ | h | h | h | h | h <;> cases h
    · rcases mem_aeAccept hm ((List.mem_append.mp hc).resolve_left (hf.no_truncate c)) with ⟨_, ht, h⟩ | h | h | h | h | h <;> cases h
      exact hts c ht

/-- Terms never decrease, and the reply carries the node's term after the section. -/
theorem C06_term {n n' : Node} {now : Nat} {q : AEReq} {r : AEResp} {eff : List Effect}
    (h : appendEntries n now q = some (n', r, eff)) : n.term ≤ n'.term ∧ r.term = n'.term := by
  cases appendEntries_cases h with
  | stale => exact ⟨Nat.le_refl _, rfl⟩
  | reject hle | unreadable hle =>
    have hT := (aeEnter_term_vote n now q hle).1
    exact ⟨hT ▸ hle, hT.symm⟩
  | accept hle =>
    rw [(aeAccept_term_vote _ now q).1, (aeEnter_term_vote n now q hle).1]; exact ⟨hle, rfl⟩

/-! Non-vacuity: a concrete follower with a conflicting tail, a request that overwrites
    it, and the premises of `C06_accept` hold. -/
def exNode : Node :=
  { id := 1, term := 3, log := { ents := [⟨1, 1, 1, 11, none⟩, ⟨2, 1, 1, 12, none⟩, ⟨3, 2, 1, 13, none⟩] },
    commitIndex := 1, config := ⟨1, [(1, true), (2, true), (3, true)]⟩ }
def exReq : AEReq :=
  { leaderId := 2, term := 3, leaderCommit := 3, prevIndex := 2, prevTerm := 1,
    entries := [⟨3, 3, 1, 23, none⟩, ⟨4, 3, 1, 24, none⟩] }

example : AEPre exNode exReq := ⟨by decide, by decide, by decide⟩
example : ∃ n' r eff, appendEntries exNode 1000 exReq = some (n', r, eff) ∧ r.success = true ∧
    n'.commitIndex = 3 ∧ Effect.logTruncate 3 ∈ eff ∧ n'.log.ents.length = 4 := by
  refine ⟨_, _, _, rfl, ?_, ?_, ?_, ?_⟩ <;> decide

/-! ### The overlap probe of E3-appendEntries (DESIGN 13.4)

  The probe holds back the log append of request A (term 3, entries 1-2), issues request B (term 4,
  another entry 1) and lets the append go; its oracle is "the state both sequential orders produce".
  That the two orders do coincide, and on which state, is evaluated on the model (a test by
  evaluation of two concrete requests, not a theorem about all pairs). -/
def probeNode : Node := { id := 1, term := 3, log := { ents := [] }, config := ⟨1, [(1, true), (2, true), (3, true)]⟩ }
def probeA : AEReq := { leaderId := 2, term := 3, leaderCommit := 0, prevIndex := 0, prevTerm := 0,
                        entries := [⟨1, 3, 1, 131, none⟩, ⟨2, 3, 1, 231, none⟩] }
def probeB : AEReq := { leaderId := 3, term := 4, leaderCommit := 0, prevIndex := 0, prevTerm := 0,
                        entries := [⟨1, 4, 1, 141, none⟩] }
def thenAE (n : Option Node) (q : AEReq) : Option Node := n.bind (fun n => (appendEntries n 1000 q).map (·.1))

example : (thenAE (thenAE (some probeNode) probeA) probeB).map (fun n => (n.term, n.log.ents)) = some (4, [⟨1, 4, 1, 141, none⟩]) ∧
          (thenAE (thenAE (some probeNode) probeB) probeA).map (fun n => (n.term, n.log.ents)) = some (4, [⟨1, 4, 1, 141, none⟩]) := by
  decide

/-! ### Cluster level (Proofs/ReplSafety.lean) -/

/-- **Log matching, globally.** In every reachable state of the replication-layer model: if
    two nodes hold an entry of the same term at the same index, their logs are identical up to
    that index. -/
theorem C06_log_matching {cfg : Config} (hnd : cfg.voterIds.Nodup) {s : Repl.AState} (hr : Repl.Reachable cfg s) (a b i : Nat)
    (h1 : 1 ≤ i) (ha : i ≤ (s.nodes a).log.length) (hb : i ≤ (s.nodes b).log.length)
    (ht : Repl.termAt (s.nodes a).log i = Repl.termAt (s.nodes b).log i) :
    (s.nodes a).log.take i = (s.nodes b).log.take i :=
  Repl.log_matching hnd hr a b i h1 ha hb ht

end Raft
