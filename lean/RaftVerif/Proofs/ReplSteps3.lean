/-
  Proofs/ReplSteps3.lean — preservation of the invariant by the steps in which a leader extends
  its own log: clientAppend and becomeLeader (one common lemma, `inv_append`).
-/
import RaftVerif.Proofs.ReplSteps1
namespace Raft
namespace Repl

set_option linter.unusedVariables false in
/-- The node `l`, candidate or leader of term `T` with the votes of a quorum, appends one entry
    of term `T` and is (or stays) leader; the ghost log of `T` becomes its new log. `hnew`, owed only by a node
    that becomes leader: every position of an earlier leader log is in its log, or no voter of `Q` acknowledged it
    (which makes it dead now), or it is dead already — `lc` for the new leader log. (`hnd` is not used here: that no
    leader log of `T` exists yet is the caller's business, `glog_none_of_candidate`.) -/
theorem inv_append {cfg : Config} (hnd : cfg.voterIds.Nodup) {s : AState} (hi : Inv cfg s) (l T : Nat) (e : AEntry) (Q : List Nat)
    (hT : (s.nodes l).term = T) (hrole : (s.nodes l).role ≠ .follower)
    (hg : s.glog T = none ∨ s.glog T = some (l, (s.nodes l).log))
    (hQ : IsQuorum cfg Q) (hQv : ∀ m ∈ Q, (T, m, l) ∈ s.votes)
    (hnew : s.glog T = none → ∀ t c' g i, s.glog t = some (c', g) → t < T → 1 ≤ i → i ≤ g.length → termAt g i = t →
      (s.nodes l).log.take i = g.take i ∨ (∀ m ∈ Q, ¬ AckedGE s m i t) ∨ Dead cfg s i t)
    (he : e.term = T) :
    Inv cfg { s with
      nodes := setNode s l { s.nodes l with role := .leader, log := (s.nodes l).log ++ [e] },
      glog := fun t => if t = T then some (l, (s.nodes l).log ++ [e]) else s.glog t,
      acked := (l, (s.nodes l).log.length + 1, T) :: s.acked } := by
  let L := (s.nodes l).log
  let n' : ANode := { s.nodes l with role := .leader, log := L ++ [e] }
  let s' : AState := { s with nodes := setNode s l n', glog := fun t => if t = T then some (l, L ++ [e]) else s.glog t }
  have hother : ∀ j, j ≠ l → s'.nodes j = s.nodes j := fun j h => setNode_other s n' h
  have hself : s'.nodes l = n' := setNode_same s l n'
  have hglogT : s'.glog T = some (l, L ++ [e]) := if_pos rfl
  -- first the log and the ghost log, then (`inv_addAck`) the leader's acknowledgement of its own append
  suffices h1 : Inv cfg s' from
    inv_addAck h1 l (L.length + 1) T l (L ++ [e]) ((congrArg ANode.term hself).trans hT) hglogT (by simp) (by rw [hself])
  have hglogNe : ∀ t, t ≠ T → s'.glog t = s.glog t := fun t h => if_neg h
  -- the bound name stands on the right (also in `hgnew`): an `rfl` pattern removes it and keeps `T`, `l`, `L`
  have hgT : ∀ c g, s.glog T = some (c, g) → l = c ∧ L = g := fun c g h =>
    hg.elim (fun h0 => by cases h0.symm.trans h) fun h1 => by cases h1.symm.trans h; exact ⟨rfl, rfl⟩
  have hgold : ∀ t c g, s.glog t = some (c, g) → ∃ g', s'.glog t = some (c, g') ∧ g <+: g' :=
    glog_update_ext hg (List.prefix_append _ _)
  -- a clause over the leader logs: the new log owes it, the others had it
  have hgall : ∀ {P : Nat → Nat → List AEntry → Prop}, P T l (L ++ [e]) → (∀ t c g, s.glog t = some (c, g) → P t c g) →
      ∀ t c g, s'.glog t = some (c, g) → P t c g := by
    intro P new old t c g h
    by_cases ht : t = T
    · subst t; cases hglogT.symm.trans h; exact new
    · exact old t c g ((hglogNe t ht).symm.trans h)
  have hgnew : ∀ t c g', s'.glog t = some (c, g') → (T = t ∧ l = c ∧ L ++ [e] = g') ∨ s.glog t = some (c, g') :=
    hgall (.inl ⟨rfl, rfl, rfl⟩) fun _ _ _ => .inr
  have hext : Ext s s' := ⟨fun x h => h, fun x h => h, hgold, fun _ _ _ h => Or.inl h⟩
  have hdead : ∀ {i t}, Dead cfg s i t → Dead cfg s' i t := Dead.mono hi hext
  have hLshape := hi.log_shape l
  have hLT : ∀ x ∈ L, x.term ≤ T := fun x hx => hT ▸ hLshape.1 x hx
  have hsorted : Sorted (L ++ [e]) := sorted_append_one hLshape.2 e fun x hx => he ▸ hLT x hx
  have hbound : ∀ x ∈ L ++ [e], x.term ≤ T :=
    List.forall_mem_append.mpr ⟨hLT, List.forall_mem_singleton.mpr (Nat.le_of_eq he)⟩
  have hterms : ∀ j, (s'.nodes j).term = (s.nodes j).term := setNode_rel (R := fun a b => a.term = b.term) rfl fun _ => rfl
  have hcommits : ∀ j, (s'.nodes j).commit = (s.nodes j).commit := setNode_rel (R := fun a b => a.commit = b.commit) rfl fun _ => rfl
  have hlens : ∀ j, (s.nodes j).log.length ≤ (s'.nodes j).log.length :=
    setNode_rel (R := fun a b => b.log.length ≤ a.log.length) (List.length_append ▸ Nat.le_add_right _ _) fun _ => Nat.le_refl _
  have hlogSelf : (s'.nodes l).log = L ++ [e] := by rw [hself]
  have hroleSelf : (s'.nodes l).role = .leader := by rw [hself]
  have htake : ∀ j k, k ≤ (s.nodes j).log.length → (s'.nodes j).log.take k = (s.nodes j).log.take k :=
    fun j k => setNode_rel (R := fun a b => k ≤ b.log.length → a.log.take k = b.log.take k)
      (fun hk => List.take_append_of_le_length hk) (fun _ _ => rfl) j
  have hroles : ∀ j, (s'.nodes j).role ≠ .follower → (s.nodes j).role ≠ .follower :=
    setNode_rel (R := fun a b => a.role ≠ .follower → b.role ≠ .follower) (fun _ => hrole) fun _ h => h
  have hcand : ∀ j, (s'.nodes j).role = .candidate → j ≠ l := fun j hj h => by rw [h, hroleSelf] at hj; cases hj
  have hlast : ∀ {k}, k ≤ (L ++ [e]).length → ¬ k ≤ L.length → k = L.length + 1 := fun hk hkold => by
    rw [List.length_append, List.length_singleton] at hk; omega
  have hnlm : ∀ n k, 1 ≤ k → k ≤ (s'.nodes n).log.length →
      ∃ c g, s'.glog (termAt (s'.nodes n).log k) = some (c, g) ∧ k ≤ g.length ∧ (s'.nodes n).log.take k = g.take k := by
    intro n k h1 hk
    by_cases hkold : k ≤ (s.nodes n).log.length
    · obtain ⟨c, g, hgg, hkg, hp⟩ := hi.node_lm n k h1 hkold
      obtain ⟨g', hg', hpre⟩ := hgold _ c g hgg
      refine ⟨c, g', ?_, Nat.le_trans hkg hpre.length_le, ?_⟩
      · rw [termAt_of_take_eq (htake n k hkold)]; exact hg'
      · rw [htake n k hkold, hp, take_prefix_stable hpre hkg]
    · -- only the appended entry of `l`
      have hnl : n = l := Classical.byContradiction fun h => hkold (hother n h ▸ hk)
      subst n
      rw [hlogSelf] at hk ⊢
      cases hlast hk hkold
      exact ⟨l, L ++ [e], by rw [termAt_append_last, he]; exact hglogT, by simp, rfl⟩
  refine { hi with votes_term := ?_, rvs_term := ?_, votes_cand := ?_, self_vote := ?_, leader_glog := ?_,
                   glog_votes := ?_, glog_term := ?_, glog_cand := ?_, glog_shape := ?_, log_shape := ?_, cand_log := ?_,
                   rvs_cand := ?_, node_lm := ?_, glog_lm := ?_, msg_ok := ?_, ack_ok := ?_, ack_prefix := ?_, lc := ?_,
                   vote_prefix := ?_, commit_ok := ?_, role_pos := ?_, glog_pos := ?_ }
  · exact fun T' m c h => hterms m ▸ hi.votes_term T' m c h
  · exact fun q hq => hterms q.cand ▸ hi.rvs_term q hq
  · exact fun T' m c h => hterms c ▸ hi.votes_cand T' m c h
  · exact fun j hj => hterms j ▸ hi.self_vote j (hroles j hj)
  · intro j hj
    by_cases h : j = l
    · subst j; rw [hterms l, hT, hlogSelf]; exact hglogT
    · rw [hother j h] at hj ⊢
      have hlg := hi.leader_glog j hj
      -- another leader leads another term
      have hne : (s.nodes j).term ≠ T := fun hEq => h (hgT j _ (hEq ▸ hlg)).1.symm
      exact (hglogNe _ hne).trans hlg
  · exact hgall ⟨Q, hQ, hQv⟩ hi.glog_votes
  · exact hgall (Nat.le_of_eq ((hterms l).trans hT).symm) fun t c g h => hterms c ▸ hi.glog_term t c g h
  · refine hgall (fun _ hc => hcand l hc rfl) fun t c g h ht hc => ?_
    rw [hother c (hcand c hc)] at ht hc
    exact hi.glog_cand t c g h ht hc
  · exact hgall ⟨hbound, hsorted, by simp, (lastTerm_append L e).trans he⟩ hi.glog_shape
  · exact setNode_all (P := fun _ a => (∀ x ∈ a.log, x.term ≤ a.term) ∧ Sorted a.log) ⟨hT ▸ hbound, hsorted⟩ hi.log_shape
  · intro j hj x hx
    have h := hcand j hj
    rw [hother j h] at hj hx ⊢; exact hi.cand_log j hj x hx
  · intro q hq hc ht
    have h := hcand _ hc
    rw [hother _ h] at hc ht ⊢; exact hi.rvs_cand q hq hc ht
  · exact hnlm
  · refine hgall (fun k h1 hk => ?_) fun t c g h k h1 hk => ?_
    · -- the new leader log is the log of node `l`
      have := hnlm l k h1 (hlogSelf ▸ hk)
      rwa [hlogSelf] at this
    · obtain ⟨c1, g1, hg1, hk1, hp1⟩ := hi.glog_lm t c g h k h1 hk
      obtain ⟨g1', hg1', hpre⟩ := hgold _ c1 g1 hg1
      exact ⟨c1, g1', hg1', Nat.le_trans hk1 hpre.length_le, by rw [hp1, take_prefix_stable hpre hk1]⟩
  · intro m hm
    obtain ⟨c, g, h1, h2, h3, h4, h5, h6⟩ := hi.msg_ok m hm
    obtain ⟨g', hg', hpre⟩ := hgold _ c g h1
    refine ⟨c, g', hg', Nat.le_trans h2 hpre.length_le, ?_, ?_, Nat.le_trans h5 hpre.length_le, ?_⟩
    · rw [drop_take_prefix_stable hpre h2]; exact h3
    · rw [termAt_prefix_stable hpre (Nat.le_trans (Nat.le_add_right _ _) h2)]; exact h4
    · rw [take_prefix_stable hpre h5]; exact h6.mono hext (Nat.le_refl _)
  · intro m j t h
    obtain ⟨h1, c, g, hgg, hj⟩ := hi.ack_ok m j t h
    obtain ⟨g', hg', hpre⟩ := hgold _ c g hgg
    exact ⟨hterms m ▸ h1, c, g', hg', Nat.le_trans hj hpre.length_le⟩
  · intro m j t c g' k h hg' h1 hk hterm
    obtain ⟨_, c0, g0, hg0, hj0⟩ := hi.ack_ok m j t h
    obtain ⟨g0', hg0', hpre⟩ := hgold _ c0 g0 hg0
    cases hg0'.symm.trans hg'
    have hkg : k ≤ g0.length := Nat.le_trans hk hj0
    refine (hi.ack_prefix m j t c g0 k h hg0 h1 hk ((termAt_prefix_stable hpre hkg).symm.trans hterm)).imp ?_ hdead
    intro hp
    rw [htake m k (length_of_take_eq hp hkg), hp, take_prefix_stable hpre hkg]
  · intro T1 c1 gT1 t c' g' k hT1g htg hlt h1 hk hterm
    rcases hgnew t c' g' htg with ⟨rfl, rfl, rfl⟩ | htold
    · -- the earlier log is the new one
      have hT1old : s.glog T1 = some (c1, gT1) := (hglogNe T1 (Nat.ne_of_gt hlt)).symm.trans hT1g
      by_cases hkold : k ≤ L.length
      · rw [termAt_append_left hkold] at hterm
        -- position `k` of `L` lies on the old leader log of its term (`node_lm`): there is one, and it is `L`
        obtain ⟨c, g, hgl, _⟩ := hi.node_lm l k h1 hkold
        rw [hterm] at hgl
        obtain ⟨rfl, rfl⟩ := hgT c g hgl
        refine (hi.lc T1 c1 gT1 T l L k hT1old hgl hlt h1 hkold hterm).imp (fun hp => ?_) hdead
        rw [hp, List.take_append_of_le_length hkold]
      · -- its new position is dead: no acknowledgement of this term reaches it yet
        cases hlast hk hkold
        refine Or.inr (hdead (dead_of_not_acked hi hT1old hlt fun m j hmem => ?_))
        obtain ⟨_, c, g, hgg, hj⟩ := hi.ack_ok m j T hmem
        exact Nat.lt_succ_of_le ((hgT c g hgg).2 ▸ hj)
    · rcases hgnew T1 c1 gT1 hT1g with ⟨rfl, rfl, rfl⟩ | hT1old
      · -- the later log is the new one
        have hlen : L.take k = g'.take k → (L ++ [e]).take k = g'.take k :=
          fun hp => (List.take_append_of_le_length (length_of_take_eq hp hk)).trans hp
        rcases hg with h0 | hgl
        · rcases hnew h0 t c' g' k htold hlt h1 hk hterm with hp | hna | hd
          · exact Or.inl (hlen hp)
          · exact Or.inr ⟨T, l, L ++ [e], Q, hlt, hglogT, hQ, hQv, hna⟩
          · exact Or.inr (hdead hd)
        · exact (hi.lc T l L t c' g' k hgl htold hlt h1 hk hterm).imp hlen hdead
      · exact (hi.lc T1 c1 gT1 t c' g' k hT1old htold hlt h1 hk hterm).imp_right hdead
  · intro T1 m c t j c' g' k hv hc hT1 hlt ha hg' h1 hk hterm
    have hcl := hcand c hc
    rw [hother c hcl] at hc hT1 ⊢
    obtain ⟨_, c0, g0, hg0, hj0⟩ := hi.ack_ok m j t ha
    obtain ⟨g0', hg0', hpre⟩ := hgold _ c0 g0 hg0
    cases hg0'.symm.trans hg'
    have hkg : k ≤ g0.length := Nat.le_trans hk hj0
    refine (hi.vote_prefix T1 m c t j c' g0 k hv hc hT1 hlt ha hg0 h1 hk
      ((termAt_prefix_stable hpre hkg).symm.trans hterm)).imp (fun hp => ?_) hdead
    rw [hp, take_prefix_stable hpre hkg]
  · intro n
    obtain ⟨hc1, hc2⟩ := hi.commit_ok n
    rw [hcommits n, hterms n, htake n _ hc1]
    exact ⟨Nat.le_trans hc1 (hlens n), hc2.mono hext (Nat.le_refl _)⟩
  · exact fun j hj => hterms j ▸ hi.role_pos j (hroles j hj)
  · exact hgall (hT ▸ hi.role_pos l hrole) hi.glog_pos

/-- so that the state after `clientAppend`, which does not write the role, is literally the one `inv_append` speaks of -/
theorem anode_leader_eq (n : ANode) (h : n.role = .leader) (X : List AEntry) :
    ({ n with log := X } : ANode) = { n with role := .leader, log := X } := by
  cases n; cases h; rfl

/-- two vote quorums of one term meet, and a node votes once -/
theorem glog_none_of_candidate {cfg : Config} (hnd : cfg.voterIds.Nodup) {s : AState} (hi : Inv cfg s) (c : Nat) (Q : List Nat)
    (hc : (s.nodes c).role = .candidate) (hQ : IsQuorum cfg Q) (hQv : ∀ m ∈ Q, ((s.nodes c).term, m, c) ∈ s.votes) :
    s.glog (s.nodes c).term = none := by
  cases hgl : s.glog (s.nodes c).term with
  | none => rfl
  | some x =>
    obtain ⟨c', g⟩ := x
    obtain ⟨Q', hQ', hv'⟩ := hi.glog_votes _ c' g hgl
    obtain ⟨v, hv1, hv2⟩ := quorum_meet hnd hQ hQ'
    cases hi.votes_unique _ v c c' (hQv v hv1) (hv' v hv2)
    exact absurd hc (hi.glog_cand _ c g hgl rfl)

theorem inv_clientAppend {cfg : Config} (hnd : cfg.voterIds.Nodup) {s : AState} (hi : Inv cfg s) (l payload : Nat)
    (hl : (s.nodes l).role = .leader) :
    Inv cfg { s with
      nodes := setNode s l { s.nodes l with log := (s.nodes l).log ++ [⟨(s.nodes l).term, payload⟩] },
      glog := fun t => if t = (s.nodes l).term then some (l, (s.nodes l).log ++ [⟨(s.nodes l).term, payload⟩]) else s.glog t,
      acked := (l, (s.nodes l).log.length + 1, (s.nodes l).term) :: s.acked } := by
  have hg := hi.leader_glog l hl
  obtain ⟨Q, hQ, hQv⟩ := hi.glog_votes _ l _ hg
  rw [anode_leader_eq (s.nodes l) hl]
  exact inv_append hnd hi l (s.nodes l).term ⟨(s.nodes l).term, payload⟩ Q rfl (by simp [hl]) (Or.inr hg) hQ hQv
    (fun h0 => by cases h0.symm.trans hg) rfl

theorem inv_becomeLeader {cfg : Config} (hnd : cfg.voterIds.Nodup) {s : AState} (hi : Inv cfg s) (c : Nat) (Q : List Nat)
    (hc : (s.nodes c).role = .candidate) (hQ : IsQuorum cfg Q) (hQv : ∀ m ∈ Q, ((s.nodes c).term, m, c) ∈ s.votes) :
    Inv cfg { s with
      nodes := setNode s c { s.nodes c with role := .leader, log := (s.nodes c).log ++ [⟨(s.nodes c).term, 0⟩] },
      glog := fun t => if t = (s.nodes c).term then some (c, (s.nodes c).log ++ [⟨(s.nodes c).term, 0⟩]) else s.glog t,
      acked := (c, (s.nodes c).log.length + 1, (s.nodes c).term) :: s.acked } := by
  refine inv_append hnd hi c (s.nodes c).term ⟨(s.nodes c).term, 0⟩ Q rfl (by simp [hc])
    (Or.inl (glog_none_of_candidate hnd hi c Q hc hQ hQv)) hQ hQv ?_ rfl
  -- a position some voter acknowledged is in the candidate's log (`vote_prefix`); one that none did is dead
  intro _ t c' g i hg hlt h1 hig hterm
  by_cases hex : ∃ m ∈ Q, AckedGE s m i t
  · obtain ⟨m, hm, j, hj, hack⟩ := hex
    exact (hi.vote_prefix _ m c t j c' g i (hQv m hm) hc rfl hlt hack hg h1 hj hterm).imp_right Or.inr
  · exact Or.inr (Or.inl fun m hm hack => hex ⟨m, hm, hack⟩)

end Repl
end Raft
