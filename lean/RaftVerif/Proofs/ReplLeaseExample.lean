/-
  Proofs/ReplLeaseExample.lean — non-vacuity of the lease theorems: a timely run
  (ET = 10, LD = 5, D = 5) that reaches a state with a valid lease.
-/
import RaftVerif.Proofs.ReplLease
import RaftVerif.Proofs.ReplExample
namespace Raft
namespace Repl

def u0 : RState := { rinit with now := rinit.now + 1 + 9 }
theorem us0 : RStep cfg3 rinit u0 := RStep.tick rinit 9

def u1 : RState := { u0 with s := timeoutS u0.s 1, now := u0.now + 1, voteAt := ((u0.s.nodes 1).term + 1, 1, 1, u0.now) :: u0.voteAt }
theorem us1 : RStep cfg3 u0 u1 := RStep.timeout u0 1 (by decide)

def u2 : RState := { u1 with s := grantS u1.s 2 q1, now := u1.now + 1, voteAt := (q1.term, 2, q1.cand, u1.now) :: u1.voteAt }
theorem us2 : RStep cfg3 u1 u2 :=
  RStep.grant u1 2 q1 (by decide) (by decide) (by intro c h; simp [u1, u0, rinit, init, timeoutS, q1] at h) (by right; decide)

def u3 : RState := { u2 with s := becomeLeaderS u2.s 1, now := u2.now + 1, electAt := ((u2.s.nodes 1).term, 1, u2.now) :: u2.electAt }
theorem us3 : RStep cfg3 u2 u3 :=
  RStep.becomeLeader u2 1 [1, 2] (by decide) quorum12 (by decide)

def u4 : RState := { u3 with s := sendAES u3.s 1 0 1 u3.now, now := u3.now + 1 }
theorem us4 : RStep cfg3 u3 u4 := RStep.sendAE u3 1 0 1 (by decide) (by decide)

def mu : AEMsg := ⟨1, 0, 0, [⟨1, 0⟩], 0, 13⟩
def u5 : RState := { u4 with s := recvAEokS u4.s 2 mu, now := u4.now + 1, hbAck := (2, mu.term, mu.stamp, u4.now) :: u4.hbAck }
theorem us5 : RStep cfg3 u4 u5 := RStep.recvAEok u4 2 mu (by decide) (by decide) (Or.inl (by decide)) (by decide) (by decide)

def v0 : LState := { linit with r := u0 }
def v1 : LState := { v0 with r := u1 }
def v2 : LState := { v1 with r := u2 }
def v3 : LState := { v2 with r := u3 }
def v4 : LState := { v3 with r := u4 }
def v5 : LState := { v4 with r := u5, contact := fun j => if j = 2 then v4.r.now else v4.contact j }
def v6 : LState := { v5 with proc := (1, 2, 1, 13, v5.r.now) :: v5.proc }
def v7 : LState := { v6 with leases := (1, (v6.r.s.nodes 1).term, v6.r.now + 5) :: v6.leases }

theorem v7_reachable : LReachable cfg3 10 5 5 v7 := by
  have h0 : LStep cfg3 10 5 5 linit v0 := LStep.quiet linit u0 us0 rfl rfl
  have h1 : LStep cfg3 10 5 5 v0 v1 := LStep.vote v0 u1 1 1 1 us1 rfl rfl (by decide)
  have h2 : LStep cfg3 10 5 5 v1 v2 := LStep.vote v1 u2 1 2 1 us2 rfl rfl (by decide)
  have h3 : LStep cfg3 10 5 5 v2 v3 := LStep.quiet v2 u3 us3 rfl rfl
  have h4 : LStep cfg3 10 5 5 v3 v4 := LStep.quiet v3 u4 us4 rfl rfl
  have h5 : LStep cfg3 10 5 5 v4 v5 := LStep.answer v4 u5 2 1 13 us5 rfl rfl
  have h6 : LStep cfg3 10 5 5 v5 v6 := LStep.process v5 1 2 1 13 14 (by decide) (by decide)
  have h7 : LStep cfg3 10 5 5 v6 v7 := LStep.renew v6 1 13 [1, 2] (by decide) quorum12
    (by intro m hm; simp at hm; rcases hm with h | h
        · left; exact h
        · right; subst h; exact ⟨15, by decide⟩) (by decide)
  exact .step (.step (.step (.step (.step (.step (.step (.step .base h0) h1) h2) h3) h4) h5) h6) h7

/-- the lease of node 1 is valid in that state (now = 15 < 20) and `LD + D ≤ ET` -/
theorem v7_lease_valid : LeaseValid v7 1 ∧ 5 + 5 ≤ 10 :=
  ⟨⟨by decide, 20, by decide, by decide⟩, by decide⟩

end Repl
end Raft
