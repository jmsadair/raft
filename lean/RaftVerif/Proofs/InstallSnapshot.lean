/-
  Proofs/InstallSnapshot.lean — the first locked section of `InstallSnapshot`, analysed once (`installA_cases`).
-/
import RaftVerif.Model.Snapshot
import RaftVerif.Proofs.NodeLemmas
namespace Raft
namespace Node

/-- `isEnter` is at most one `becomeFollower`, then the contact time. -/
theorem isEnter_follows (n : Node) (now : Nat) (q : ISReq) :
    ∃ r, MaybeFollows n now q.term r ∧ n.isEnter now q = ({ r.1 with lastContact := now }, r.2) := by
  refine ⟨_, .twice n now q.leaderId q.term, ?_⟩
  -- back to the two tests: that is the definition
  rw [← becomeFollower_twice]; rfl

theorem isDiscardOlder_node (n : Node) (q : ISReq) : ∃ rc, (n.isDiscardOlder q).1 = { n with recv := rc } := by
  unfold isDiscardOlder
  cases n.recv with
  | none => exact ⟨_, rfl⟩
  | some f => simp only []; split <;> exact ⟨_, rfl⟩

theorem isOpenFile_node (n : Node) (q : ISReq) : ∃ rc, (n.isOpenFile q).1 = { n with recv := rc } := by
  unfold isOpenFile
  cases n.recv <;> exact ⟨_, rfl⟩

theorem isClose_node (n : Node) (f : RecvSnap) (q : ISReq) :
    (n.isClose f q).1 = { n with recv := none, snaps := n.snaps ++ [{ index := f.index, term := f.term, data := f.data }],
                                 snapIndex := q.lastIndex, snapTerm := q.lastTerm } := by
  unfold isClose
  simp only []
  split
  · split <;> rfl
  · rfl

/-- What the first section leaves (the reply itself is not described). -/
inductive ISOutcome (n : Node) (now : Nat) (q : ISReq) : Node → List Effect → ISNext → Prop
  | stale : n.term > q.term → ISOutcome n now q n [] .reply
  /-- the snapshot is not above the boundary or the applied index: only `isEnter` has run -/
  | nothingNew : n.term ≤ q.term →
      (n.isEnter now q).1.snapIndex ≥ q.lastIndex ∨ (n.isEnter now q).1.lastApplied ≥ q.lastIndex →
      ISOutcome n now q (n.isEnter now q).1 (n.isEnter now q).2 .reply
  /-- file handling: after `isEnter` only the file in progress, the visible snapshots and the boundary are written
      (effects and continuation are left open: no property speaks of them) -/
  | files {rc sn si st eff nx} : n.term ≤ q.term →
      ¬ ((n.isEnter now q).1.snapIndex ≥ q.lastIndex ∨ (n.isEnter now q).1.lastApplied ≥ q.lastIndex) →
      ISOutcome n now q { (n.isEnter now q).1 with recv := rc, snaps := sn, snapIndex := si, snapTerm := st } eff nx

theorem installA_cases {n n' : Node} {now : Nat} {q : ISReq} {r : ISResp} {eff : List Effect} {nx : ISNext}
    (h : n.installA now q = some (n', r, eff, nx)) : ISOutcome n now q n' eff nx := by
  unfold installA at h
  by_cases hs : n.role = .shutdown
  · rw [if_pos hs] at h; cases h
  rw [if_neg hs] at h
  by_cases ht : n.term > q.term
  · rw [if_pos ht] at h; cases h; exact .stale ht
  rw [if_neg ht] at h
  have hle := Nat.le_of_not_lt ht
  by_cases hold : (n.isEnter now q).1.snapIndex ≥ q.lastIndex ∨ (n.isEnter now q).1.lastApplied ≥ q.lastIndex
  · simp only [if_pos hold] at h; cases h; exact .nothingNew hle hold
  simp only [if_neg hold] at h
  -- the three remaining exits differ only in what they did to the files
  obtain ⟨rc, e2⟩ : ∃ rc, (((n.isEnter now q).1.isDiscardOlder q).1.isOpenFile q).1 = { (n.isEnter now q).1 with recv := rc } := by
    obtain ⟨_, e1⟩ := isDiscardOlder_node (n.isEnter now q).1 q
    obtain ⟨_, e2⟩ := isOpenFile_node ((n.isEnter now q).1.isDiscardOlder q).1 q
    exact ⟨_, by rw [e2, e1]⟩
  generalize ((n.isEnter now q).1.isDiscardOlder q).1.isOpenFile q = r2 at h e2
  obtain ⟨m, ef, f⟩ := r2
  subst e2
  by_cases ho : q.offset ≠ f.written
  · rw [if_pos ho] at h; cases h; exact .files hle hold
  rw [if_neg ho] at h
  -- (`dsimp only` flattens the nested record updates: left to the unifier they cost several times as much)
  by_cases hd : (!q.isDone) = true
  · rw [if_pos hd] at h; cases h; dsimp only; exact .files hle hold
  rw [if_neg hd] at h
  cases h
  rw [isClose_node]; dsimp only; exact .files hle hold

end Node
end Raft
