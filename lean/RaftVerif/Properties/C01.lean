/-
  Properties/C01.lean — state-machine safety.

  Node level, for every node state: a state machine instance is handed operations in
  strictly increasing index order, each one the entry of the node's own log at
  `lastApplied + 1`, never beyond the commit index.

  Cluster level (`C01_state_machine_safety`, from Proofs/ReplSafety.lean): in every reachable
  state of the replication-layer model (Model/Repl.lean: any number of nodes, static
  configuration, requests lost / delayed / reordered / duplicated, crashes that keep log and
  vote, any interleaving, unbounded logs and terms) the committed prefixes of any two nodes —
  also of one state and any later state, i.e. across restarts and leader changes — are
  comparable. With the node-level theorems: no two state machines ever see different
  operations at one position. The induction is the 23-field invariant of Proofs/ReplInv.lean
  (log matching, leader completeness via "dead positions", vote restriction, commit rule).
  The model's steps are tied to the node functions by Proofs/ReplRefine.lean (merge loop,
  accepting path, previous-entry guard, vote guard, leader appends) and those to the code by
  E3; the cluster-level tie is E4 (every Apply call of every incarnation recorded and compared).
  Outside this theorem: membership changes (C09) and compaction (C10/C11).
-/
import RaftVerif.Proofs.LeaderSpecs
import RaftVerif.Proofs.ReplExample
import RaftVerif.Proofs.ReplRefine
namespace Raft
open Node

/-- **Apply order.** A step of the apply loop that hands an operation to the state machine
    hands out the entry at `lastApplied + 1` of the node's own log, at or below the commit
    index, and then `lastApplied` is exactly one higher. The other steps leave `lastApplied`
    alone or move it by one over a no-op or configuration entry (`applyStep_cases`), so
    indices handed to the state machine are strictly increasing and never skip a committed
    operation entry. -/
theorem C01_apply_in_order (n : Node) (now : Nat) (e : Entry) (f : Bool) (h : (n.applyStep now).2.2 = .op e f)
    (hw : n.log.WF) :
    e.index = n.lastApplied + 1 ∧ e.index ≤ n.commitIndex ∧ (n.applyStep now).1.lastApplied = e.index ∧
    n.log.get? e.index = some e := by
  obtain ⟨hg, hc, hl, _, _⟩ := (applyStep_spec n now).2.2.2.2.2 e f h
  rw [Log.wf_get?_index hw hg]
  exact ⟨rfl, hc, hl, hg⟩

/-- The apply loop never changes the log or the commit index, and does nothing when
    everything committed has been applied. -/
theorem C01_apply_frame (n : Node) (now : Nat) :
    (n.applyStep now).1.log = n.log ∧ (n.applyStep now).1.commitIndex = n.commitIndex ∧
    (n.commitIndex ≤ n.lastApplied → (n.applyStep now).2.2 = .none) := by
  refine ⟨(applyStep_spec n now).1, (applyStep_spec n now).2.1, fun h => ?_⟩
  unfold applyStep
  rw [if_neg (fun hh => Nat.not_lt.mpr h hh.1)]

/-- **State machine safety.** In the replication-layer model, for every reachable state `s`,
    every state `s'` reachable from `s`, and any two nodes: the committed prefix of one (in
    `s`) and of the other (in `s'`) are comparable — one is a prefix of the other. -/
theorem C01_state_machine_safety {cfg : Config} (hnd : cfg.voterIds.Nodup) {s s' : Repl.AState}
    (hr : Repl.Reachable cfg s) (hfrom : Repl.ReachableFrom cfg s s') (a b : Nat) :
    (s.nodes a).log.take (s.nodes a).commit <+: (s'.nodes b).log.take (s'.nodes b).commit ∨
    (s'.nodes b).log.take (s'.nodes b).commit <+: (s.nodes a).log.take (s.nodes a).commit :=
  Repl.state_machine_safety hnd hr hfrom a b

/-- the same within one state, position by position: two nodes that have both committed
    index `i` hold the same entry there -/
theorem C01_same_entry_at_committed_index {cfg : Config} (hnd : cfg.voterIds.Nodup) {s : Repl.AState}
    (hr : Repl.Reachable cfg s) (a b i : Nat) (ha : i < (s.nodes a).commit) (hb : i < (s.nodes b).commit) :
    (s.nodes a).log[i]? = (s.nodes b).log[i]? := by
  have h := Repl.committed_take_eq hnd hr .base a b (i + 1) ha hb
  rw [← List.getElem?_take_of_lt (Nat.lt_succ_self i), h, List.getElem?_take_of_lt (Nat.lt_succ_self i)]

/-- non-vacuity: a run that elects a leader, replicates a client operation and commits it is
    reachable (Proofs/ReplExample.lean) -/
example : Repl.Reachable Repl.cfg3 Repl.s7 ∧ (Repl.s7.nodes 1).commit = 2 := ⟨Repl.s7_reachable, Repl.s7_committed.1⟩

end Raft
