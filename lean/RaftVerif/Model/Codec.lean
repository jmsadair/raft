/-
  Model/Codec.lean — the records the code stores and sends, as protobuf messages
  (internal/protobuf/raft.proto). Go's proto.Marshal emits known fields in field-number
  order and omits zero scalars and empty byte strings (proto3); that is `optV`/`optB`.
-/
import RaftVerif.Model.Bytes
namespace Raft.Codec
open Raft.Bytes

def optV (num v : Nat) : List Field := if v = 0 then [] else [.varint num v]
def optB (num : Nat) (v : Bytes) : List Field := if v = [] then [] else [.bytes num v]

/-- `LogEntry` as stored in log.bin (with the `Offset` field) -/
structure SEntry where
  index : Nat
  term : Nat
  offset : Nat := 0
  data : Bytes := []
  kind : Nat := 0
deriving DecidableEq, Repr, Inhabited

def logFields (e : SEntry) : List Field :=
  optV 1 e.index ++ optV 2 e.term ++ optV 3 e.offset ++ optB 4 e.data ++ optV 5 e.kind

def encodeLogBody (e : SEntry) : Bytes := encodeFields (logFields e)

def decodeLogBody (bs : Bytes) : Option SEntry :=
  (parseMessage bs).map fun fs =>
    { index := getVarint fs 1, term := getVarint fs 2, offset := getVarint fs 3,
      data := getBytes fs 4, kind := getVarint fs 5 }

/-- `StorageState` of state.bin -/
structure SState where
  term : Nat
  votedFor : Bytes := []
deriving DecidableEq, Repr, Inhabited

def stateFields (s : SState) : List Field := optV 1 s.term ++ optB 2 s.votedFor
def encodeStateBody (s : SState) : Bytes := encodeFields (stateFields s)
def decodeStateBody (bs : Bytes) : Option SState :=
  (parseMessage bs).map fun fs => { term := getVarint fs 1, votedFor := getBytes fs 2 }

/-- A length-prefixed record of log.bin / state.bin. -/
def frame (body : Bytes) : Bytes := be32 body.length ++ body

/-! RPC messages (wire). Entries on the wire carry no offset. -/

structure WEntry where
  index : Nat
  term : Nat
  data : Bytes := []
  kind : Nat := 0
deriving DecidableEq, Repr, Inhabited

def wentryFields (e : WEntry) : List Field := optV 1 e.index ++ optV 2 e.term ++ optB 4 e.data ++ optV 5 e.kind
def decodeWEntry (bs : Bytes) : Option WEntry :=
  (parseMessage bs).map fun fs => { index := getVarint fs 1, term := getVarint fs 2, data := getBytes fs 4, kind := getVarint fs 5 }

structure WAEReq where
  leaderId : Bytes
  term : Nat
  leaderCommit : Nat
  prevIndex : Nat
  prevTerm : Nat
  entries : List WEntry
deriving DecidableEq, Repr, Inhabited

/-- repeated message fields are always emitted, also when the sub-message is empty. -/
def aeReqFields (q : WAEReq) : List Field :=
  optB 1 q.leaderId ++ optV 2 q.term ++ optV 3 q.leaderCommit ++ optV 4 q.prevIndex ++ optV 5 q.prevTerm ++
  q.entries.map (fun e => Field.bytes 6 (encodeFields (wentryFields e)))

def getRepeated (fs : List Field) (num : Nat) : List Bytes :=
  fs.filterMap fun f => match f with
    | .bytes n v => if n = num then some v else none
    | _ => none

def decodeAEReq (bs : Bytes) : Option WAEReq :=
  match parseMessage bs with
  | none => none
  | some fs =>
    match (getRepeated fs 6).mapM decodeWEntry with
    | none => none
    | some es => some { leaderId := getBytes fs 1, term := getVarint fs 2, leaderCommit := getVarint fs 3,
                        prevIndex := getVarint fs 4, prevTerm := getVarint fs 5, entries := es }

structure WAEResp where
  term : Nat
  index : Nat
  success : Bool
deriving DecidableEq, Repr, Inhabited
def aeRespFields (r : WAEResp) : List Field := optV 1 r.term ++ optV 2 r.index ++ optV 3 (if r.success then 1 else 0)
def decodeAEResp (bs : Bytes) : Option WAEResp :=
  (parseMessage bs).map fun fs => { term := getVarint fs 1, index := getVarint fs 2, success := getVarint fs 3 != 0 }

structure WRVReq where
  candidate : Bytes
  term : Nat
  lastIndex : Nat
  lastTerm : Nat
  prevote : Bool
deriving DecidableEq, Repr, Inhabited
def rvReqFields (q : WRVReq) : List Field :=
  optB 1 q.candidate ++ optV 2 q.term ++ optV 3 q.lastIndex ++ optV 4 q.lastTerm ++ optV 5 (if q.prevote then 1 else 0)
def decodeRVReq (bs : Bytes) : Option WRVReq :=
  (parseMessage bs).map fun fs => { candidate := getBytes fs 1, term := getVarint fs 2, lastIndex := getVarint fs 3,
                                    lastTerm := getVarint fs 4, prevote := getVarint fs 5 != 0 }

structure WRVResp where
  term : Nat
  granted : Bool
deriving DecidableEq, Repr, Inhabited
def rvRespFields (r : WRVResp) : List Field := optV 1 r.term ++ optV 2 (if r.granted then 1 else 0)
def decodeRVResp (bs : Bytes) : Option WRVResp :=
  (parseMessage bs).map fun fs => { term := getVarint fs 1, granted := getVarint fs 2 != 0 }

structure WISReq where
  term : Nat
  leader : Bytes
  lastIndex : Nat
  lastTerm : Nat
  configuration : Bytes
  offset : Nat
  data : Bytes
  isDone : Bool
deriving DecidableEq, Repr, Inhabited
def isReqFields (q : WISReq) : List Field :=
  optV 1 q.term ++ optB 2 q.leader ++ optV 3 q.lastIndex ++ optV 4 q.lastTerm ++ optB 5 q.configuration ++
  optV 6 q.offset ++ optB 7 q.data ++ optV 8 (if q.isDone then 1 else 0)
def decodeISReq (bs : Bytes) : Option WISReq :=
  (parseMessage bs).map fun fs =>
    ({ term := getVarint fs 1
       leader := getBytes fs 2
       lastIndex := getVarint fs 3
       lastTerm := getVarint fs 4
       configuration := getBytes fs 5
       offset := getVarint fs 6
       data := getBytes fs 7
       isDone := getVarint fs 8 != 0 } : WISReq)

structure WISResp where
  term : Nat
  bytesWritten : Nat
deriving DecidableEq, Repr, Inhabited
def isRespFields (r : WISResp) : List Field := optV 1 r.term ++ optV 2 r.bytesWritten
def decodeISResp (bs : Bytes) : Option WISResp :=
  (parseMessage bs).map fun fs => { term := getVarint fs 1, bytesWritten := getVarint fs 2 }

/-! `Configuration`: two proto maps and an index. A map is a repeated entry message
    (key = field 1, value = field 2; protobuf-go always emits both, also when empty or
    false) in an unspecified order; the model keeps association lists in wire order, so a
    statement for every list is a statement for every order the Go map iteration can take.
    On decoding, a later entry for the same key overrides an earlier one (`lookupLast`). -/
structure WCfg where
  members : List (Bytes × Bytes) := []
  voters : List (Bytes × Bool) := []
  index : Nat := 0
deriving DecidableEq, Repr, Inhabited

def memberField (kv : Bytes × Bytes) : Field := .bytes 1 (encodeFields [.bytes 1 kv.1, .bytes 2 kv.2])
def voterField (kv : Bytes × Bool) : Field := .bytes 2 (encodeFields [.bytes 1 kv.1, .varint 2 (if kv.2 then 1 else 0)])

def cfgFields (c : WCfg) : List Field := c.members.map memberField ++ c.voters.map voterField ++ optV 3 c.index

def decodeMember (bs : Bytes) : Option (Bytes × Bytes) :=
  (parseMessage bs).map fun fs => (getBytes fs 1, getBytes fs 2)
def decodeVoter (bs : Bytes) : Option (Bytes × Bool) :=
  (parseMessage bs).map fun fs => (getBytes fs 1, getVarint fs 2 != 0)

def decodeCfg (bs : Bytes) : Option WCfg :=
  match parseMessage bs with
  | none => none
  | some fs =>
    match (getRepeated fs 1).mapM decodeMember, (getRepeated fs 2).mapM decodeVoter with
    | some ms, some vs => some { members := ms, voters := vs, index := getVarint fs 3 }
    | _, _ => none

/-- the value a Go map holds for `k` after the entries were inserted in wire order -/
def lookupLast {α : Type} (l : List (Bytes × α)) (k : Bytes) : Option α :=
  l.foldl (fun acc kv => if kv.1 = k then some kv.2 else acc) none

end Raft.Codec
