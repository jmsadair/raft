/-
  Proofs/CodecAE.lean — the log entry as an embedded message of the AppendEntries request (the one RPC
  that carries user data): it travels as a bytes field, so its encoded length must fit the length
  varint — hence the length bounds — and it has a round trip of its own.
-/
import RaftVerif.Proofs.Codec
namespace Raft.Codec
open Raft.Bytes

theorem bytesField_length (num : Nat) (v : Bytes) : (encodeField (.bytes num v)).length ≤ 20 + v.length := by
  have h1 := encodeVarint_length (num * 8 + 2)
  have h2 := encodeVarint_length v.length
  simp only [encodeField, tagBytes, List.length_append]; omega

theorem varintField_length (num v : Nat) : (encodeField (.varint num v)).length ≤ 20 := by
  have h1 := encodeVarint_length (num * 8)
  have h2 := encodeVarint_length v
  simp only [encodeField, tagVarint, List.length_append]; omega

theorem optV_length (num v : Nat) : (encodeFields (optV num v)).length ≤ 20 := by
  unfold optV; split
  · exact Nat.zero_le _
  · rw [encodeFields_single]; exact varintField_length num v

theorem optB_length (num : Nat) (v : Bytes) : (encodeFields (optB num v)).length ≤ 20 + v.length := by
  unfold optB; split
  · exact Nat.zero_le _
  · rw [encodeFields_single]; exact bytesField_length num v

theorem wentry_length (e : WEntry) : (encodeFields (wentryFields e)).length ≤ 80 + e.data.length := by
  unfold wentryFields
  simp only [encodeFields_append, List.length_append]
  have h1 := optV_length 1 e.index
  have h2 := optV_length 2 e.term
  have h3 := optB_length 4 e.data
  have h4 := optV_length 5 e.kind
  omega

/-- 2^63 for the payload: the entry travels as a bytes field of at most 80 + payload bytes
    (`wentry_length`), and that length must stay below 2^64. -/
def WEntry.Valid (e : WEntry) : Prop :=
  e.index < 2 ^ 64 ∧ e.term < 2 ^ 64 ∧ e.kind < 2 ^ 64 ∧ e.data.length < 2 ^ 63

theorem wentry_roundtrip (e : WEntry) (h : e.Valid) : decodeWEntry (encodeFields (wentryFields e)) = some e := by
  obtain ⟨h1, h2, h3, h4⟩ := h
  have hv : ∀ f ∈ wentryFields e, f.Valid := by
    simp only [wentryFields, List.forall_mem_append, and_assoc]
    exact ⟨optV_valid 1 _ h1, optV_valid 2 _ h2, optB_valid 4 _ (by omega), optV_valid 5 _ h3⟩
  rw [decodeWEntry, parseMessage_encode _ hv]
  cases e; simp [wentryFields, getVarint_eq, getBytes_eq]

def WAEReq.Valid (q : WAEReq) : Prop :=
  q.leaderId.length < 2 ^ 64 ∧ q.term < 2 ^ 64 ∧ q.leaderCommit < 2 ^ 64 ∧ q.prevIndex < 2 ^ 64 ∧ q.prevTerm < 2 ^ 64 ∧
  ∀ e ∈ q.entries, e.Valid

end Raft.Codec
