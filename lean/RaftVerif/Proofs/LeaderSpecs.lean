/-
  Proofs/LeaderSpecs.lean — the leader's loops and the client-facing sections, analysed once: the commit loop,
  the apply loop, client submission and the membership calls; per section what it does to the node and what
  it can emit.
-/
import RaftVerif.Proofs.LeaderSections
import RaftVerif.Proofs.LogLemmas
namespace Raft
namespace Node

/-- the voters (other than the leader) whose match index covers `index` -/
def matchers (n : Node) (index : Nat) : List Follower :=
  n.followers.filter (fun f => f.id ≠ n.id && n.config.isVoter f.id && decide (f.mtch ≥ index))

theorem mem_matchers {n : Node} {index : Nat} {f : Follower} : f ∈ n.matchers index ↔
    f ∈ n.followers ∧ f.id ≠ n.id ∧ n.config.isVoter f.id = true ∧ index ≤ f.mtch := by
  simp [matchers, and_assoc]

/-- An index is committable: it holds an entry of the current term and the leader (if it
    is a voter: fix S24) plus the matching voters pass `hasQuorum`. -/
def Committable (n : Node) (c : Nat) : Prop :=
  ∃ e, n.log.get? c = some e ∧ e.term = n.term ∧ n.config.hasQuorum (n.selfCount + (n.matchers c).length) = true

theorem commitScan_spec (n : Node) (fuel index best c : Nat) (h : commitScan n fuel index best = some c) :
    c = best ∨ (index ≤ c ∧ c < index + fuel ∧ n.Committable c) := by
  induction fuel generalizing index best with
  | zero => exact .inl (Option.some.inj h).symm
  | succ fuel ih =>
    unfold commitScan at h
    cases hg : n.log.get? index with
    | none => rw [hg] at h; nomatch h
    | some e =>
      rw [hg] at h
      -- the scan goes on from `index + 1`, with `index` for `best` if `index` is committable
      obtain ⟨b, hb, hb'⟩ : ∃ b, commitScan n fuel (index + 1) b = some c ∧ (b = best ∨ (b = index ∧ n.Committable index)) := by
        dsimp only at h
        split at h
        · exact ⟨_, h, .inl rfl⟩
        · rename_i ht
          split at h
          · rename_i hq; exact ⟨_, h, .inr ⟨rfl, e, hg, Classical.not_not.mp ht, hq⟩⟩
          · exact ⟨_, h, .inl rfl⟩
      rcases ih (index + 1) b hb with h1 | ⟨h1, h2, h3⟩
      · rcases hb' with rfl | ⟨rfl, hC⟩
        · exact .inl h1
        · exact .inr ⟨by omega, by omega, h1 ▸ hC⟩
      · exact .inr ⟨by omega, by omega, h3⟩

theorem commitStep_cases (n : Node) (now : Nat) :
    (∃ eff, n.commitStep now = (n, eff) ∧ ∀ e ∈ eff, e = .fatal) ∨
    ∃ c, n.role = .leader ∧ n.commitIndex < c ∧
      commitScan n (n.log.lastIndex - n.commitIndex) (n.commitIndex + 1) n.commitIndex = some c ∧
      n.commitStep now = ((({ n with commitIndex := c } : Node).sendAEToPeers now).1,
                          .signalApply :: (({ n with commitIndex := c } : Node).sendAEToPeers now).2) := by
  unfold commitStep
  by_cases hl : n.role ≠ .leader
  · exact .inl ⟨[], if_pos hl, fun _ h => nomatch h⟩
  · rw [if_neg hl]
    cases hs : commitScan n (n.log.lastIndex - n.commitIndex) (n.commitIndex + 1) n.commitIndex with
    | none => exact .inl ⟨[.fatal], rfl, fun _ h => List.mem_singleton.mp h⟩
    | some c =>
      by_cases hc : c > n.commitIndex
      · exact .inr ⟨c, Classical.not_not.mp hl, hc, rfl, if_pos hc⟩
      · exact .inl ⟨[], if_neg hc, fun _ h => nomatch h⟩

/-- **The commit rule.** One wake-up of the commit loop never lowers the commit index;
    when it raises it, the new commit index holds an entry of the leader's *current* term
    that the leader and a `hasQuorum` set of *voters* have stored (match index); log, term,
    vote and role are untouched. -/
theorem commitStep_spec (n : Node) (now : Nat) :
    let n' := (n.commitStep now).1
    n.commitIndex ≤ n'.commitIndex ∧ n'.log = n.log ∧ n'.term = n.term ∧ n'.votedFor = n.votedFor ∧ n'.role = n.role ∧
    (n.commitIndex < n'.commitIndex → n.role = .leader ∧ n.Committable n'.commitIndex ∧ n'.commitIndex ≤ n.log.lastIndex) := by
  obtain ⟨_, h, -⟩ | ⟨c, hl, hc, hs, h⟩ := commitStep_cases n now
  · rw [h]; exact ⟨Nat.le_refl _, rfl, rfl, rfl, rfl, fun h => absurd h (Nat.lt_irrefl _)⟩
  · obtain ⟨k, h', -⟩ := sendAEToPeers_node ({ n with commitIndex := c } : Node) now
    rw [h, h']
    refine ⟨Nat.le_of_lt hc, rfl, rfl, rfl, rfl, fun _ => ⟨hl, ?_⟩⟩
    rcases commitScan_spec n _ _ _ _ hs with h1 | ⟨h1, h2, h3⟩
    · exact absurd (h1 ▸ hc) (Nat.lt_irrefl _)
    · exact ⟨h3, by show c ≤ _; omega⟩

theorem mem_commitStep {n : Node} {now : Nat} {e : Effect} (h : e ∈ (n.commitStep now).2) :
    e = .fatal ∨ e.isWake = true := by
  obtain ⟨_, h', he⟩ | ⟨c, -, -, -, h'⟩ := commitStep_cases n now <;> rw [h'] at h
  · exact .inl (he _ h)
  · rcases List.mem_cons.mp h with rfl | h
    · exact .inr rfl
    · exact .inr (sendAEToPeers_wake h)

inductive ApplyCase (n : Node) (now : Nat) : Node × List Effect × Applied → Prop
  | idle (h : ¬ (n.lastApplied < n.commitIndex ∧ n.role ≠ .shutdown)) : ApplyCase n now (n, [], .none)
  /-- `logger.Fatal`: the entry is missing, a configuration entry carries none, or the kind is unknown -/
  | fatal (h : n.lastApplied < n.commitIndex)
      (hbad : ∀ e, n.log.get? (n.lastApplied + 1) = some e →
        (e.kind = kConfig ∧ e.cfg = none) ∨ (e.kind ≠ kNoop ∧ e.kind ≠ kConfig ∧ e.kind ≠ kOp)) :
      ApplyCase n now (n, [.fatal], .none)
  | noop (h : n.lastApplied < n.commitIndex) (e : Entry) (hg : n.log.get? (n.lastApplied + 1) = some e)
      (hk : e.kind = kNoop) : ApplyCase n now ({ n with lastApplied := n.lastApplied + 1 }, [], .noop e.index)
  | config (h : n.lastApplied < n.commitIndex) (e : Entry) (c : Config)
      (hg : n.log.get? (n.lastApplied + 1) = some e) (hk : e.kind = kConfig) (hc : e.cfg = some c) :
      ApplyCase n now
        ({ (n.applyConfiguration now c).1 with
             lastApplied := (n.applyConfiguration now c).1.lastApplied + 1,
             cfgFuture := if decide ((n.applyConfiguration now c).1.cfgFuture = some e.index) then none
                          else (n.applyConfiguration now c).1.cfgFuture },
         (n.applyConfiguration now c).2,
         .config e.index c (decide ((n.applyConfiguration now c).1.cfgFuture = some e.index)))
  | op (h : n.lastApplied < n.commitIndex) (e : Entry) (hg : n.log.get? (n.lastApplied + 1) = some e)
      (hk : e.kind = kOp) :
      ApplyCase n now ({ n with lastApplied := n.lastApplied + 1, pendingRep := n.pendingRep.filter (· ≠ e.index) }, [],
                       .op e (n.pendingRep.contains e.index))

theorem applyStep_cases (n : Node) (now : Nat) : ApplyCase n now (n.applyStep now) := by
  unfold applyStep
  by_cases h : n.lastApplied < n.commitIndex ∧ n.role ≠ .shutdown
  · rw [if_pos h]
    cases hg : n.log.get? (n.lastApplied + 1) with
    | none => exact .fatal h.1 fun _ he => nomatch hg.symm.trans he
    | some e =>
      show ApplyCase n now (if e.kind = kNoop then _ else _)
      by_cases h0 : e.kind = kNoop
      · rw [if_pos h0]; exact .noop h.1 e hg h0
      rw [if_neg h0]
      by_cases h2 : e.kind = kConfig
      · rw [if_pos h2]
        cases hc : e.cfg with
        | none => exact .fatal h.1 fun e' he => by cases hg.symm.trans he; exact .inl ⟨h2, hc⟩
        | some c => exact .config h.1 e c hg h2 hc
      rw [if_neg h2]
      by_cases h1 : e.kind = kOp
      · rw [if_pos h1]; exact .op h.1 e hg h1
      · rw [if_neg h1]; exact .fatal h.1 fun e' he => by cases hg.symm.trans he; exact .inr ⟨h0, h2, h1⟩
  · rw [if_neg h]; exact .idle h

/-- **The apply rule.** One iteration of the apply loop either does nothing or hands out
    exactly the log entry at `lastApplied + 1`, which is at or below the commit index, and
    advances `lastApplied` by one; the log, commit index, term and vote are untouched. -/
theorem applyStep_spec (n : Node) (now : Nat) :
    let r := n.applyStep now
    r.1.log = n.log ∧ r.1.commitIndex = n.commitIndex ∧ r.1.term = n.term ∧ r.1.votedFor = n.votedFor ∧
    (r.2.2 = .none → r.1.lastApplied = n.lastApplied) ∧
    (∀ e f, r.2.2 = .op e f → n.log.get? (n.lastApplied + 1) = some e ∧ n.lastApplied + 1 ≤ n.commitIndex ∧
        r.1.lastApplied = n.lastApplied + 1 ∧ f = n.pendingRep.contains e.index ∧ e.index ∉ r.1.pendingRep) := by
  have hc := applyStep_cases n now
  generalize n.applyStep now = r at hc ⊢
  -- `fun _ _ => nofun`: a bare `nofun` splits the entry and the flag before it looks at the equation
  cases hc with
  | idle | fatal => exact ⟨rfl, rfl, rfl, rfl, fun _ => rfl, fun _ _ => nofun⟩
  | noop => exact ⟨rfl, rfl, rfl, rfl, nofun, fun _ _ => nofun⟩
  | config h e c =>
    obtain ⟨k, hn⟩ := applyConfiguration_node n now c
    rw [hn]; exact ⟨rfl, rfl, rfl, rfl, nofun, fun _ _ => nofun⟩
  | op h e hg =>
    refine ⟨rfl, rfl, rfl, rfl, nofun, fun e' f he => ?_⟩
    cases he
    exact ⟨hg, h, rfl, rfl, fun hm => by simpa using (List.mem_filter.mp hm).2⟩

/-- the entry `submitReplicatedOperation` creates -/
def submitEntry (n : Node) (data : Nat) : Entry := { index := n.log.nextIndex, term := n.term, kind := kOp, data := data }

theorem submitReplicated_leader (n : Node) (now data : Nat) (hl : n.role = .leader) : ∃ m : Node,
    m.log = n.log.append [n.submitEntry data] ∧
    n.submitReplicated now data =
      ((m.sendAEToPeers now).1, .logAppend [n.submitEntry data] :: (m.sendAEToPeers now).2, .accepted n.log.nextIndex) :=
  ⟨_, rfl, by unfold submitReplicated; rw [if_neg (fun h => h hl)]; rfl⟩

theorem mem_submitReplicated {n : Node} {now data : Nat} {e : Effect} (h : e ∈ (n.submitReplicated now data).2.1) :
    (∃ es, e = .logAppend es) ∨ e.isWake = true := by
  unfold submitReplicated at h
  by_cases hl : n.role ≠ .leader
  · rw [if_pos hl] at h; nomatch h
  · rw [if_neg hl] at h
    exact (List.mem_cons.mp h).imp (⟨_, ·⟩) sendAEToPeers_wake

theorem no_abort_of_append_wake {l : List Effect} (h : ∀ e ∈ l, (∃ es, e = .logAppend es) ∨ e.isWake = true) :
    Effect.fatal ∉ l ∧ Effect.panic ∉ l := by
  constructor <;> intro hm <;> rcases h _ hm with ⟨_, h⟩ | h <;> nomatch h

/-- `committedThisTerm` reads the entry only behind `Contains`, so it never fails: the `logger.Fatal` exit of the
    membership calls is unreachable from every node state. -/
theorem committedThisTerm_isSome (n : Node) : n.committedThisTerm.isSome := by
  unfold committedThisTerm
  split
  · rename_i hc
    obtain ⟨e, he⟩ := Log.get?_some_of_contains hc
    rw [he]; rfl
  · rfl

/-- The two membership calls differ in their last guard and in the entry they append: one proof. -/
theorem mem_addServer_removeServer {n : Node} {now : Nat} {e : Effect} :
    (∀ id v, e ∈ (n.addServer now id v).2.1 → (∃ es, e = .logAppend es) ∨ e.isWake = true) ∧
    (∀ id, e ∈ (n.removeServer now id).2.1 → (∃ es, e = .logAppend es) ∨ e.isWake = true) := by
  obtain ⟨b, hb⟩ := Option.isSome_iff_exists.mp (committedThisTerm_isSome n)
  unfold addServer removeServer
  rw [hb]
  refine ⟨fun id v h => ?_, fun id h => ?_⟩ <;>
  · by_cases hl : n.role ≠ .leader
    · rw [if_pos hl] at h; nomatch h
    rw [if_neg hl] at h
    cases b; · nomatch h
    dsimp only at h
    by_cases hp : n.pendingConfig = true
    · rw [if_pos hp] at h; nomatch h
    rw [if_neg hp] at h
    split at h; · nomatch h
    exact (List.mem_cons.mp h).imp (⟨_, ·⟩) sendAEToPeers_wake

end Node
end Raft
