/-
  Proofs/LeaderSections.lean — the leader's replication side, analysed once: a new round, `becomeLeader`, the
  request a replication goroutine builds and what its reply does.

  A section is given as the tree of its guards over named pieces, and per piece the resulting node as ONE
  record update with the new values existentially quantified (several: as the fields of one node `k`): any
  frame fact is that equation followed by `rfl`. The pieces repeat the text of the model word for word,
  `let`s included, so that the equation is `rfl` by syntactic match. Idiom for guards: see the head of
  Proofs/NodeLemmas.lean.
-/
import RaftVerif.Proofs.NodeLemmas
import RaftVerif.Model.Leader
namespace Raft

/-- The effects that only wake another loop or start a goroutine. -/
def Effect.isWake : Effect → Bool
  | .signalApply | .signalCommit | .signalReadOnly | .signalElection | .signalSnapshot | .spawnAE _ | .spawnRV _ _ => true
  | _ => false

namespace Node

theorem sendAEToPeers_node (n : Node) (now : Nat) : ∃ k : Node,
    (n.sendAEToPeers now).1 = { n with aeRounds := (n.nextRound, n.selfCount, n.readSeq) :: n.aeRounds,
                                       nextRound := n.nextRound + 1, pendingReads := k.pendingReads,
                                       leaseExpiry := k.leaseExpiry, shouldVerify := k.shouldVerify } ∧
    (n.config.isSingle n.id = false →
      k.pendingReads = n.pendingReads ∧ k.leaseExpiry = n.leaseExpiry ∧ k.shouldVerify = n.shouldVerify) := by
  unfold sendAEToPeers
  cases n.config.isSingle n.id
  · exact ⟨n, rfl, fun _ => ⟨rfl, rfl, rfl⟩⟩
  · exact ⟨(n.tryApplyReadOnly now n.readSeq).1, rfl, fun h => nomatch h⟩

theorem sendAEToPeers_wake {n : Node} {now : Nat} {e : Effect} (h : e ∈ (n.sendAEToPeers now).2) : e.isWake = true := by
  unfold sendAEToPeers tryApplyReadOnly at h
  rcases List.mem_append.mp h with h | h
  · by_cases hs : n.config.isSingle n.id = true
    · rw [if_pos hs] at h
      simp only [List.mem_append, List.mem_ite_nil_right, List.mem_singleton] at h
      rcases h with ⟨_, rfl⟩ | rfl <;> rfl
    · rw [if_neg hs] at h; nomatch h
  · obtain ⟨p, _, rfl⟩ := List.mem_map.mp h; rfl

theorem becomeLeader_node (n : Node) (now : Nat) : ∃ k : Node,
    (n.becomeLeader now).1 =
      { n with role := .leader, pendingRep := [], readSeq := 0, recv := none,
               followers := (n.followers.map fun f => { f with next := n.log.lastIndex + 1, mtch := 0 }).map
                              fun f => { f with snapOpen := false },
               log := n.log.append [{ index := n.log.nextIndex, term := n.term, kind := kNoop, data := 0 }],
               aeRounds := (n.nextRound, n.selfCount, 0) :: n.aeRounds, nextRound := n.nextRound + 1,
               pendingReads := k.pendingReads, leaseExpiry := k.leaseExpiry, shouldVerify := k.shouldVerify } ∧
    (n.config.isSingle n.id = false → k.pendingReads = [] ∧ k.leaseExpiry = now ∧ k.shouldVerify = true) := by
  unfold becomeLeader
  extract_lets n1 r2 noop _ n3 r4
  exact sendAEToPeers_node n3 now

theorem mem_becomeLeader {n : Node} {now : Nat} {e : Effect} (h : e ∈ (n.becomeLeader now).2) :
    e = .snapDiscard ∨ (∃ es, e = .logAppend es) ∨ e.isWake = true := by
  unfold becomeLeader at h
  extract_lets n1 r2 noop _ n3 r4 at h
  rcases List.mem_append.mp h with h | h
  · rcases List.mem_append.mp h with h | h
    · have h : e ∈ if n1.recv.isSome then [Effect.snapDiscard] else [] := h
      exact .inl (List.mem_singleton.mp (List.mem_ite_nil_right.mp h).2)
    · exact .inr (.inl ⟨_, List.mem_singleton.mp h⟩)
  · exact .inr (.inr (sendAEToPeers_wake h))

theorem prepareAE_names_leader {n : Node} {peer : Nat} {q : AEReq} (h : n.prepareAE peer = .request q) :
    n.role = .leader ∧ q.term = n.term ∧ q.leaderId = n.id := by
  unfold prepareAE at h
  by_cases hl : n.role ≠ .leader ∨ n.config.isMember peer = false
  · rw [if_pos hl] at h; nomatch h
  rw [if_neg hl] at h
  cases hf : n.followers.find? (·.id = peer) with
  | none => rw [hf] at h; nomatch h
  | some f =>
    rw [hf] at h
    dsimp only at h
    by_cases hs : f.next ≤ n.snapIndex
    · rw [if_pos hs] at h; nomatch h
    rw [if_neg hs] at h
    split at h
    · cases h; exact ⟨Classical.not_not.mp fun hh => hl (.inl hh), rfl, rfl⟩
    · nomatch h

/-- The leadership-confirmation half of a replication reply: a voter's reply is counted in its
    round; on quorum the reads older than the round are verified and the lease renewed. -/
def aeConfirm (n : Node) (now peer round : Nat) : Node × List Effect :=
  if n.config.isVoter peer then
    let n0 := { n with aeRounds := bumpAERound n.aeRounds round }
    if n0.config.hasQuorum (aeRoundCount n0.aeRounds round)
    then n0.tryApplyReadOnly now (aeRoundSeq n0.aeRounds round) else (n0, [])
  else (n, [])

/-- The replication-progress half: next / match index of `peer` from the reply. -/
def aeProgress (r1 : Node × List Effect) (peer : Nat) (q : AEReq) (r : AEResp) : Node × List Effect × Bool :=
  if !r.success then
    let n2 := r1.1.setFollower peer (fun f => { f with next := r.index })
    (n2, r1.2, decide (r.index ≤ n2.snapIndex))
  else
    let m := q.prevIndex + q.entries.length
    match r1.1.followers.find? (·.id = peer) with
    | none => (r1.1, r1.2 ++ [.panic], false)
    | some f =>
      if m > f.mtch then
        let n2 := r1.1.setFollower peer (fun f => { f with next := max f.next (m + 1), mtch := m })
        (n2, r1.2 ++ (if m > n2.commitIndex then [Effect.signalCommit] else []), false)
      else (r1.1, r1.2, false)

/-- A reply is ignored, or makes the leader step down, or is first counted (`aeConfirm`) and then recorded
    (`aeProgress`): two halves that touch disjoint fields. -/
theorem onAEReply_eq (n : Node) (now peer round : Nat) (q : AEReq) (r : AEResp) :
    n.onAEReply now peer round q (some r) =
      if n.config.isMember peer = false ∨ n.role ≠ .leader then (n, [], false) else
      if n.term ≠ q.term then (n, [], false) else
      if r.term > n.term then ((n.becomeFollower now peer r.term).1, (n.becomeFollower now peer r.term).2, false)
      else aeProgress (n.aeConfirm now peer round) peer q r := rfl

theorem aeConfirm_node (n : Node) (now peer round : Nat) : ∃ k : Node,
    (n.aeConfirm now peer round).1 = { n with aeRounds := k.aeRounds, pendingReads := k.pendingReads,
                                              leaseExpiry := k.leaseExpiry, shouldVerify := k.shouldVerify } ∧
    (n.config.isVoter peer = false → k.aeRounds = n.aeRounds ∧ k.pendingReads = n.pendingReads ∧
      k.leaseExpiry = n.leaseExpiry ∧ k.shouldVerify = n.shouldVerify) := by
  unfold aeConfirm
  cases n.config.isVoter peer
  · exact ⟨n, rfl, fun _ => ⟨rfl, rfl, rfl, rfl⟩⟩
  · rw [if_pos rfl]
    extract_lets n0
    by_cases hq : n0.config.hasQuorum (aeRoundCount n0.aeRounds round) = true
    · rw [if_pos hq]; exact ⟨(n0.tryApplyReadOnly now (aeRoundSeq n0.aeRounds round)).1, rfl, fun h => nomatch h⟩
    · rw [if_neg hq]; exact ⟨n0, rfl, fun h => nomatch h⟩

theorem aeProgress_node (m : Node × List Effect) (peer : Nat) (q : AEReq) (r : AEResp) :
    ∃ fs, (aeProgress m peer q r).1 = { m.1 with followers := fs } := by
  unfold aeProgress
  by_cases hs : (!r.success) = true
  · rw [if_pos hs]; exact ⟨_, rfl⟩
  · rw [if_neg hs]
    extract_lets k
    cases m.1.followers.find? (·.id = peer) with
    | none => exact ⟨_, rfl⟩
    | some f =>
      show ∃ fs, (if k > f.mtch then _ else _ : Node × List Effect × Bool).1 = _
      by_cases hk : k > f.mtch
      · rw [if_pos hk]; exact ⟨_, rfl⟩
      · rw [if_neg hk]; exact ⟨_, rfl⟩

theorem onAEReply_ignored {n : Node} {peer : Nat} {q : AEReq} (now round : Nat) (r : AEResp)
    (h : (n.config.isMember peer = false ∨ n.role ≠ .leader) ∨ n.term ≠ q.term) :
    n.onAEReply now peer round q (some r) = (n, [], false) := by
  rw [onAEReply_eq]
  by_cases h' : n.config.isMember peer = false ∨ n.role ≠ .leader
  · rw [if_pos h']
  · rw [if_neg h', if_pos (h.resolve_left h')]

theorem onAEReply_node (n : Node) (now peer round : Nat) (q : AEReq) (r : AEResp) (hle : r.term ≤ n.term) :
    ∃ k : Node, (n.onAEReply now peer round q (some r)).1 =
        { n with followers := k.followers, aeRounds := k.aeRounds, pendingReads := k.pendingReads,
                 leaseExpiry := k.leaseExpiry, shouldVerify := k.shouldVerify } ∧
      (n.config.isVoter peer = false → k.aeRounds = n.aeRounds ∧ k.pendingReads = n.pendingReads ∧
        k.leaseExpiry = n.leaseExpiry ∧ k.shouldVerify = n.shouldVerify) := by
  by_cases hg : (n.config.isMember peer = false ∨ n.role ≠ .leader) ∨ n.term ≠ q.term
  · rw [onAEReply_ignored now round r hg]
    exact ⟨n, rfl, fun _ => ⟨rfl, rfl, rfl, rfl⟩⟩
  · rw [onAEReply_eq, if_neg (hg ∘ .inl), if_neg (hg ∘ .inr), if_neg (Nat.not_lt.mpr hle)]
    obtain ⟨fs, h⟩ := aeProgress_node (n.aeConfirm now peer round) peer q r
    obtain ⟨k, h', hv⟩ := aeConfirm_node n now peer round
    exact ⟨{ k with followers := fs }, h.trans (congrArg (fun m => { m with followers := fs }) h'), hv⟩

end Node
end Raft
