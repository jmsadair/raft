/-
  Properties/C09.lean — membership changes (node-level statements; known findings).

  Proved for every node state: non-voting members never count — `hasQuorum` compares
  with the number of *voters*; the commit scan counts voters' match indices only; a
  non-voter never starts an election and no vote request is ever built for or by a
  non-voter; a reply from a non-voter neither confirms leadership nor renews the lease
  (C05_nonvoter_never_confirms). Quorums of one configuration intersect in a voter, and so
  do quorums of two configurations one voter apart; two changes apart they need not. The
  cluster-level statement — safety under interleaved
  add/remove — is FALSE of this code (DESIGN.md S3, S4: followers adopt a configuration
  when applied, the leader when appended; a removal is not pending): the witnesses are
  replayed on the real code by E4 (directed scenarios S3, S4) and listed as known
  findings; a different violation is still reported.
-/
import RaftVerif.Properties.C04
import RaftVerif.Proofs.ElectionLemmas
import RaftVerif.Proofs.Quorum
import RaftVerif.Proofs.LeaderSpecs
namespace Raft
open Node

/-- **`hasQuorum` counts voters only**: it is "more than half of the voters", however
    many non-voting members the configuration has. -/
theorem C09_quorum_counts_voters (c : Config) (count : Nat) :
    c.hasQuorum count = true ↔ 2 * count > c.voters ∨ (2 * count = c.voters ∧ False) ∨ count > c.voters / 2 := by
  rw [Config.hasQuorum_iff]
  simp only [and_false, false_or]
  omega

/-- **A non-voter never campaigns.** -/
theorem C09_nonvoter_never_campaigns (n : Node) (now : Nat) (h : n.config.isVoter n.id = false) :
    n.election now = (n, []) :=
  election_idle (.inr (.inr (.inl h)))

/-- **No vote request is built for, or by, a non-voter.** -/
theorem C09_no_vote_request_for_nonvoter (n : Node) (peer : Nat) (pv : Bool)
    (h : n.config.isVoter peer = false ∨ n.config.isVoter n.id = false) : n.prepareRV peer pv = none :=
  if_pos h

/-- **Commitment counts voters only**: every follower the commit rule counts is a voter. -/
theorem C09_commit_counts_voters_only (n : Node) (index : Nat) :
    ∀ f ∈ n.matchers index, n.config.isVoter f.id = true :=
  fun _ hf => (mem_matchers.mp hf).2.2.1

set_option linter.unusedVariables false in
/-- **Two quorums of one configuration share a voter.** (`hnd` is not needed: the voter list may repeat ids.) -/
theorem C09_quorums_of_one_configuration_intersect (cfg : Config) (hnd : cfg.voterIds.Nodup) (Q1 Q2 : List Nat)
    (h1 : Q1.Nodup) (h2 : Q2.Nodup) (s1 : ∀ v ∈ Q1, cfg.isVoter v = true) (s2 : ∀ v ∈ Q2, cfg.isVoter v = true)
    (q1 : cfg.hasQuorum Q1.length = true) (q2 : cfg.hasQuorum Q2.length = true) : ∃ v, v ∈ Q1 ∧ v ∈ Q2 :=
  Cluster.quorums_intersect cfg Q1 Q2 h1 h2 s1 s2 q1 q2

set_option linter.unusedVariables false in
/-- **Quorums of ADJACENT configurations intersect** — the arithmetic that makes one-at-a-time
    membership changes safe: if `c'` has exactly the voters of `c` plus one (`x`), every quorum
    of `c` shares a voter with every quorum of `c'`. Read from right to left it is the removal
    of a voter; a promotion or demotion is the addition or removal of a voter too. (Of the hypotheses, `hnd` and
    `hx` are not needed: `hnd'` and `hadj` carry the counting.) -/
theorem C09_quorums_of_adjacent_configurations_intersect (c c' : Config) (hnd : c.voterIds.Nodup) (hnd' : c'.voterIds.Nodup)
    (x : Nat) (hx : x ∉ c.voterIds) (hadj : ∀ v, v ∈ c'.voterIds ↔ (v = x ∨ v ∈ c.voterIds))
    (Q Q' : List Nat) (h1 : Q.Nodup) (h2 : Q'.Nodup)
    (s1 : ∀ v ∈ Q, v ∈ c.voterIds) (s2 : ∀ v ∈ Q', v ∈ c'.voterIds)
    (q1 : c.hasQuorum Q.length = true) (q2 : c'.hasQuorum Q'.length = true) : ∃ v, v ∈ Q ∧ v ∈ Q' := by
  -- both quorums live among the voters of `c'`, which are at most one more than those of `c`
  have hlen : c'.voterIds.length ≤ (x :: c.voterIds).length := hnd'.length_le_of_subset fun v hv =>
    ((hadj v).mp hv).elim (· ▸ List.mem_cons_self) (List.mem_cons_of_mem _)
  refine exists_common_of_length_gt h1 h2 (fun v hv => (hadj v).mpr (.inr (s1 v hv))) s2 ?_
  rw [List.length_cons, c.voterIds_length] at hlen
  rw [c'.voterIds_length] at hlen ⊢
  rw [Config.hasQuorum_iff] at q1 q2
  omega

/-- … and configurations TWO changes apart need not: a quorum of {1,2,3} and a quorum of
    {1,2,3,4,5} with no common member. This is the arithmetic behind known finding S4 (nodes two
    configurations apart: followers adopt a configuration when applied, leaders when appended). -/
theorem C09_two_apart_quorums_can_be_disjoint :
    let c : Config := ⟨1, [(1, true), (2, true), (3, true)]⟩
    let c2 : Config := ⟨3, [(1, true), (2, true), (3, true), (4, true), (5, true)]⟩
    c.hasQuorum [1, 2].length = true ∧ c2.hasQuorum [3, 4, 5].length = true ∧
      (∀ v ∈ [1, 2], c.isVoter v = true) ∧ (∀ v ∈ [3, 4, 5], c2.isVoter v = true) ∧
      ∀ v, ¬ (v ∈ [1, 2] ∧ v ∈ [3, 4, 5]) :=
  ⟨by decide, by decide, by decide, by decide, fun v ⟨h1, h2⟩ => (by decide : ∀ v ∈ [1, 2], v ∉ [3, 4, 5]) v h1 h2⟩

theorem Node.selfCount_nonvoter {n : Node} (h : n.config.isVoter n.id = false) : n.selfCount = 0 :=
  if_neg (Bool.eq_false_iff.mp h)

/-- **A non-voting leader does not count itself** (fix S24: `AddServer(leader, …, false)` demotes the
    running leader, which keeps leading): for commitment it needs a `hasQuorum` set of OTHER members
    that are voters, and a round it starts confirms its leadership only through their answers. -/
theorem C09_nonvoting_leader_does_not_count_itself (n : Node) (now : Nat) (hnv : n.config.isVoter n.id = false)
    (h : n.commitIndex < (n.commitStep now).1.commitIndex) :
    n.config.hasQuorum (n.matchers (n.commitStep now).1.commitIndex).length = true ∧
    ∀ f ∈ n.matchers (n.commitStep now).1.commitIndex, n.config.isVoter f.id = true ∧ f.id ≠ n.id := by
  obtain ⟨_, _, e, _, _, hq, hall⟩ := C04_commit_rule n now h
  rw [selfCount_nonvoter hnv, Nat.zero_add] at hq
  exact ⟨hq, fun f hf => ⟨(hall f hf).1, (hall f hf).2.1⟩⟩

/-- … and the counter of a new round starts at 0 for it. -/
theorem C09_nonvoting_leader_round_starts_empty (n : Node) (now : Nat) (hnv : n.config.isVoter n.id = false) :
    (n.sendAEToPeers now).1.aeRounds = (n.nextRound, 0, n.readSeq) :: n.aeRounds := by
  obtain ⟨k, h, -⟩ := sendAEToPeers_node n now
  rw [h]
  exact selfCount_nonvoter hnv ▸ rfl

/-- the state used by the S3 witness: a leader of five voters that has committed in its term -/
def exS3 : Node :=
  { id := 1, role := .leader, term := 2, commitIndex := 2, lastApplied := 2,
    config := ⟨1, [(1, true), (2, true), (3, true), (4, true), (5, true)]⟩,
    committed := some ⟨1, [(1, true), (2, true), (3, true), (4, true), (5, true)]⟩,
    log := { ents := [⟨1, 1, kConfig, 0, some ⟨1, [(1, true), (2, true), (3, true), (4, true), (5, true)]⟩⟩, ⟨2, 2, kNoop, 0, none⟩] } }

/-- **The defect behind S3, stated on the model**: after an accepted `RemoveServer 2` the
    leader's configuration is unchanged, so the change is not "pending"; `RemoveServer 3`
    is accepted at once and the configuration it appends still contains server 2 (lost
    update). Replayed on the real code by the E4 scenario `S3-lost-removal`. -/
theorem C09_counterexample_removal_not_pending :
    (exS3.removeServer 0 2).2.2 = .accepted 3 ∧
    ((exS3.removeServer 0 2).1.removeServer 0 3).2.2 = .accepted 4 ∧
    (((exS3.removeServer 0 2).1.removeServer 0 3).1.log.ents.getLast?.bind (·.cfg)).map (·.isMember 2) = some true := by
  decide

end Raft
