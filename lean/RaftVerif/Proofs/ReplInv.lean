/-
  Proofs/ReplInv.lean — the inductive invariant of the replication layer (Model/Repl.lean).

  Ghost vocabulary:
  * `AckedGE s m i t`  — node m acknowledged, in term t, a log prefix reaching at least index i;
  * `Dead s i t`       — position (i, t) can never be acknowledged by a quorum: some later
                          leader was elected by a quorum none of whose members had acknowledged
                          it (and, being in a later term, none ever will);
  * `QuorumAcked`, `IsCommitted` — what "committed" means on the ghost history.

  The fields of `Inv` that carry the proof are `node_lm`, `glog_lm`, `msg_ok` (log matching), `lc` (leader completeness
  up to dead positions), `ack_prefix`, `vote_prefix` and `commit_ok`; DESIGN.md 7.1 says what each of them means.
-/
import RaftVerif.Proofs.ReplLemmas
namespace Raft
namespace Repl

def AckedGE (s : AState) (m i t : Nat) : Prop := ∃ j, i ≤ j ∧ (m, j, t) ∈ s.acked

def Dead (cfg : Config) (s : AState) (i t : Nat) : Prop :=
  ∃ T c g Q, t < T ∧ s.glog T = some (c, g) ∧ IsQuorum cfg Q ∧ (∀ m ∈ Q, (T, m, c) ∈ s.votes) ∧
    (∀ m ∈ Q, ¬ AckedGE s m i t)

def QuorumAcked (cfg : Config) (s : AState) (i t : Nat) : Prop :=
  ∃ Q, IsQuorum cfg Q ∧ ∀ m ∈ Q, AckedGE s m i t

/-- `P` is a committed prefix, witnessed by a position of a term at most `bound`. -/
def IsCommitted (cfg : Config) (s : AState) (bound : Nat) (P : List AEntry) : Prop :=
  P = [] ∨ ∃ i t c g, t ≤ bound ∧ s.glog t = some (c, g) ∧ 1 ≤ i ∧ i ≤ g.length ∧ termAt g i = t ∧
    QuorumAcked cfg s i t ∧ P <+: g.take i

structure Inv (cfg : Config) (s : AState) : Prop where
  votes_term : ∀ T m c, (T, m, c) ∈ s.votes → T ≤ (s.nodes m).term
  votes_unique : ∀ T m c c', (T, m, c) ∈ s.votes → (T, m, c') ∈ s.votes → c = c'
  rvs_term : ∀ q ∈ s.rvs, q.term ≤ (s.nodes q.cand).term
  votes_cand : ∀ T m c, (T, m, c) ∈ s.votes → T ≤ (s.nodes c).term
  self_vote : ∀ i, (s.nodes i).role ≠ .follower → ((s.nodes i).term, i, i) ∈ s.votes
  leader_glog : ∀ i, (s.nodes i).role = .leader → s.glog (s.nodes i).term = some (i, (s.nodes i).log)
  glog_votes : ∀ T c g, s.glog T = some (c, g) → ∃ Q, IsQuorum cfg Q ∧ ∀ m ∈ Q, (T, m, c) ∈ s.votes
  glog_term : ∀ T c g, s.glog T = some (c, g) → T ≤ (s.nodes c).term
  glog_cand : ∀ T c g, s.glog T = some (c, g) → (s.nodes c).term = T → (s.nodes c).role ≠ .candidate
  glog_shape : ∀ T c g, s.glog T = some (c, g) → (∀ e ∈ g, e.term ≤ T) ∧ Sorted g ∧ 1 ≤ g.length ∧ lastTerm g = T
  log_shape : ∀ i, (∀ e ∈ (s.nodes i).log, e.term ≤ (s.nodes i).term) ∧ Sorted (s.nodes i).log
  cand_log : ∀ i, (s.nodes i).role = .candidate → ∀ e ∈ (s.nodes i).log, e.term < (s.nodes i).term
  rvs_cand : ∀ q ∈ s.rvs, (s.nodes q.cand).role = .candidate → (s.nodes q.cand).term = q.term →
    q.lastIdx = (s.nodes q.cand).log.length ∧ q.lastTerm = lastTerm (s.nodes q.cand).log
  node_lm : ∀ n i, 1 ≤ i → i ≤ (s.nodes n).log.length →
    ∃ c g, s.glog (termAt (s.nodes n).log i) = some (c, g) ∧ i ≤ g.length ∧ (s.nodes n).log.take i = g.take i
  glog_lm : ∀ T c g, s.glog T = some (c, g) → ∀ i, 1 ≤ i → i ≤ g.length →
    ∃ c' g', s.glog (termAt g i) = some (c', g') ∧ i ≤ g'.length ∧ g.take i = g'.take i
  msg_ok : ∀ m ∈ s.aes, ∃ c g, s.glog m.term = some (c, g) ∧ m.prev + m.entries.length ≤ g.length ∧
    m.entries = (g.drop m.prev).take m.entries.length ∧ m.prevTerm = termAt g m.prev ∧ m.commit ≤ g.length ∧
    IsCommitted cfg s m.term (g.take m.commit)
  ack_ok : ∀ m j t, (m, j, t) ∈ s.acked → t ≤ (s.nodes m).term ∧ ∃ c g, s.glog t = some (c, g) ∧ j ≤ g.length
  ack_prefix : ∀ m j t c g i, (m, j, t) ∈ s.acked → s.glog t = some (c, g) → 1 ≤ i → i ≤ j → termAt g i = t →
    (s.nodes m).log.take i = g.take i ∨ Dead cfg s i t
  lc : ∀ T c gT t c' g i, s.glog T = some (c, gT) → s.glog t = some (c', g) → t < T → 1 ≤ i → i ≤ g.length →
    termAt g i = t → gT.take i = g.take i ∨ Dead cfg s i t
  vote_prefix : ∀ T m c t j c' g i, (T, m, c) ∈ s.votes → (s.nodes c).role = .candidate → (s.nodes c).term = T →
    t < T → (m, j, t) ∈ s.acked → s.glog t = some (c', g) → 1 ≤ i → i ≤ j → termAt g i = t →
    (s.nodes c).log.take i = g.take i ∨ Dead cfg s i t
  commit_ok : ∀ n, (s.nodes n).commit ≤ (s.nodes n).log.length ∧
    IsCommitted cfg s (s.nodes n).term ((s.nodes n).log.take (s.nodes n).commit)
  role_pos : ∀ i, (s.nodes i).role ≠ .follower → 1 ≤ (s.nodes i).term
  glog_pos : ∀ T c g, s.glog T = some (c, g) → 1 ≤ T

theorem inv_init (cfg : Config) : Inv cfg init := by
  constructor <;> simp [init, IsCommitted] <;> omega

/-- `s'` extends the ghost history of `s`; `newack`: a new acknowledgement is of a term its node has reached (so the
    voters of a later leader never make a dead position live again: `Dead.mono`). -/
structure Ext (s s' : AState) : Prop where
  votes : ∀ x ∈ s.votes, x ∈ s'.votes
  acked : ∀ x ∈ s.acked, x ∈ s'.acked
  glog : ∀ t c g, s.glog t = some (c, g) → ∃ g', s'.glog t = some (c, g') ∧ g <+: g'
  newack : ∀ m j t, (m, j, t) ∈ s'.acked → (m, j, t) ∈ s.acked ∨ (s.nodes m).term ≤ t

theorem Ext.refl_of (s s' : AState) (hv : s'.votes = s.votes) (ha : s'.acked = s.acked) (hg : s'.glog = s.glog) : Ext s s' :=
  ⟨fun _ h => hv ▸ h, fun _ h => ha ▸ h, fun _ _ g h => ⟨g, hg ▸ h, List.prefix_refl g⟩, fun _ _ _ h => Or.inl (ha ▸ h)⟩

theorem Ext.of_vote {s s' : AState} {v : Nat × Nat × Nat} (hv : s'.votes = v :: s.votes) (ha : s'.acked = s.acked)
    (hg : s'.glog = s.glog) : Ext s s' :=
  ⟨fun _ h => hv ▸ List.mem_cons_of_mem _ h, fun _ h => ha ▸ h, fun _ _ g h => ⟨g, hg ▸ h, List.prefix_refl g⟩,
   fun _ _ _ h => Or.inl (ha ▸ h)⟩

theorem Ext.of_ack {s s' : AState} {n j t : Nat} (hv : s'.votes = s.votes) (ha : s'.acked = (n, j, t) :: s.acked)
    (hle : (s.nodes n).term ≤ t) (hg : ∀ t c g, s.glog t = some (c, g) → ∃ g', s'.glog t = some (c, g') ∧ g <+: g') : Ext s s' := by
  refine ⟨fun _ h => hv ▸ h, fun _ h => ha ▸ List.mem_cons_of_mem _ h, hg, fun m j' t' h => ?_⟩
  rcases List.mem_cons.mp (ha ▸ h) with h | hold
  · cases h; exact Or.inr hle
  · exact Or.inl hold

/-- a leader log written at `T`, where there was none or a prefix of it, extends the ghost logs (`Ext.glog`) -/
theorem glog_update_ext {glog : Nat → Option (Nat × List AEntry)} {l T : Nat} {L L' : List AEntry}
    (hg : glog T = none ∨ glog T = some (l, L)) (hpre : L <+: L') :
    ∀ t c g, glog t = some (c, g) → ∃ g', (if t = T then some (l, L') else glog t) = some (c, g') ∧ g <+: g' := by
  intro t c g h
  by_cases ht : t = T
  · subst t
    rcases hg with h0 | h1
    · cases h0.symm.trans h
    · cases h1.symm.trans h; exact ⟨L', if_pos rfl, hpre⟩
  · exact ⟨g, (if_neg ht).trans h, List.prefix_refl g⟩

theorem AckedGE.mono {s s' : AState} (h : Ext s s') {m i t : Nat} : AckedGE s m i t → AckedGE s' m i t := by
  rintro ⟨j, hj, hm⟩; exact ⟨j, hj, h.acked _ hm⟩

theorem Dead.mono {cfg : Config} {s s' : AState} (hi : Inv cfg s) (h : Ext s s') {i t : Nat} : Dead cfg s i t → Dead cfg s' i t := by
  rintro ⟨T, c, g, Q, htT, hg, hQ, hv, hna⟩
  obtain ⟨g', hg', _⟩ := h.glog T c g hg
  refine ⟨T, c, g', Q, htT, hg', hQ, fun m hm => h.votes _ (hv m hm), ?_⟩
  intro m hm ⟨j, hj, hmem⟩
  rcases h.newack m j t hmem with hold | hnew
  · exact hna m hm ⟨j, hj, hold⟩
  · exact absurd (Nat.le_trans (hi.votes_term T m c (hv m hm)) hnew) (Nat.not_le_of_lt htT)

theorem QuorumAcked.mono {cfg : Config} {s s' : AState} (h : Ext s s') {i t : Nat} : QuorumAcked cfg s i t → QuorumAcked cfg s' i t := by
  rintro ⟨Q, hQ, ha⟩; exact ⟨Q, hQ, fun m hm => (ha m hm).mono h⟩

theorem IsCommitted.mono {cfg : Config} {s s' : AState} (h : Ext s s') {b b' : Nat} (hb : b ≤ b') {P : List AEntry} :
    IsCommitted cfg s b P → IsCommitted cfg s' b' P := by
  rintro (h0 | ⟨i, t, c, g, htb, hg, h1, hil, hterm, hq, hp⟩)
  · exact Or.inl h0
  · obtain ⟨g', hg', hpre⟩ := h.glog t c g hg
    refine Or.inr ⟨i, t, c, g', Nat.le_trans htb hb, hg', h1, Nat.le_trans hil hpre.length_le, ?_, hq.mono h, ?_⟩
    · rw [termAt_prefix_stable hpre hil]; exact hterm
    · rw [take_prefix_stable hpre hil]; exact hp

theorem IsCommitted.prefix {cfg : Config} {s : AState} {b : Nat} {P P' : List AEntry} (hp : P' <+: P) :
    IsCommitted cfg s b P → IsCommitted cfg s b P' := by
  rintro (h0 | ⟨i, t, c, g, htb, hg, h1, hil, hterm, hq, hpp⟩)
  · subst h0; exact Or.inl (List.prefix_nil.mp hp)
  · exact Or.inr ⟨i, t, c, g, htb, hg, h1, hil, hterm, hq, hp.trans hpp⟩

theorem not_dead_of_quorumAcked {cfg : Config} (hnd : cfg.voterIds.Nodup) {s : AState} {i t : Nat}
    (hq : QuorumAcked cfg s i t) : ¬ Dead cfg s i t := by
  rintro ⟨T, c, g, Q, _, _, hQ, _, hna⟩
  obtain ⟨Q', hQ', ha⟩ := hq
  obtain ⟨v, hv1, hv2⟩ := quorum_meet hnd hQ hQ'
  exact hna v hv1 (ha v hv2)

/-- the voters of a later leader will never acknowledge anything in the earlier term again -/
theorem dead_of_not_acked {cfg : Config} {s : AState} (hi : Inv cfg s) {T c : Nat} {g : List AEntry} (hg : s.glog T = some (c, g))
    {i t : Nat} (hlt : t < T) (hna : ∀ m j, (m, j, t) ∈ s.acked → j < i) : Dead cfg s i t := by
  obtain ⟨Q, hQ, hv⟩ := hi.glog_votes T c g hg
  exact ⟨T, c, g, Q, hlt, hg, hQ, hv, fun m _ ⟨j, hj, hmem⟩ => Nat.lt_irrefl _ (Nat.lt_of_le_of_lt hj (hna m j hmem))⟩

theorem Inv.ack_le {cfg : Config} {s : AState} (hi : Inv cfg s) {m j t c : Nat} {g : List AEntry} (h : (m, j, t) ∈ s.acked)
    (hg : s.glog t = some (c, g)) : j ≤ g.length := by
  obtain ⟨_, _, g0, hg0, hj⟩ := hi.ack_ok m j t h
  cases hg.symm.trans hg0; exact hj

/-- `lc` also against the leader log of the same term, which is the same log -/
theorem Inv.lc_le {cfg : Config} {s : AState} (hi : Inv cfg s) {T c t c' i : Nat} {gT g : List AEntry} (hT : s.glog T = some (c, gT))
    (hg : s.glog t = some (c', g)) (hle : t ≤ T) (h1 : 1 ≤ i) (hig : i ≤ g.length) (hti : termAt g i = t) :
    gT.take i = g.take i ∨ Dead cfg s i t := by
  rcases Nat.eq_or_lt_of_le hle with rfl | hlt
  · cases hT.symm.trans hg; exact Or.inl rfl
  · exact hi.lc T c gT t c' g i hT hg hlt h1 hig hti

/-- the witness position is acknowledged by a quorum, so it is not dead (`lc`) -/
theorem IsCommitted.prefix_glog {cfg : Config} (hnd : cfg.voterIds.Nodup) {s : AState} (hi : Inv cfg s) {b : Nat} {P : List AEntry}
    (h : IsCommitted cfg s b P) {T c : Nat} {gT : List AEntry} (hT : s.glog T = some (c, gT)) (hb : b ≤ T) : P <+: gT := by
  rcases h with rfl | ⟨i, t, c1, g, htb, hg, h1, hig, hti, hq, hp⟩
  · exact List.nil_prefix
  · have := (hi.lc_le hT hg (Nat.le_trans htb hb) h1 hig hti).resolve_right (not_dead_of_quorumAcked hnd hq)
    exact (this ▸ hp).trans (List.take_prefix _ _)

theorem committed_terms {cfg : Config} {s : AState} (hi : Inv cfg s) {b : Nat} {P : List AEntry} (h : IsCommitted cfg s b P) :
    ∀ x ∈ P, x.term ≤ b := by
  rcases h with rfl | ⟨i, t, c, g, htb, hg, _, _, _, _, hp⟩
  · nofun
  · exact fun x hx => Nat.le_trans ((hi.glog_shape t c g hg).1 x (List.mem_of_mem_take (hp.subset hx))) htb

theorem committed_term_le_voter {cfg : Config} (hnd : cfg.voterIds.Nodup) {s : AState} (hi : Inv cfg s) {b : Nat} {P : List AEntry}
    (h : IsCommitted cfg s b P) : ∀ x ∈ P, ∃ v, cfg.isVoter v = true ∧ x.term ≤ (s.nodes v).term := by
  rcases h with rfl | ⟨i, t, c, g, _, hg, _, _, _, ⟨Q, hQ, hQa⟩, hp⟩
  · nofun
  · intro x hx
    obtain ⟨m, hm, _⟩ := quorum_meet hnd hQ hQ      -- a quorum has a member
    obtain ⟨j, _, hack⟩ := hQa m hm
    exact ⟨m, hQ.2.1 m hm, Nat.le_trans ((hi.glog_shape t c g hg).1 x (List.mem_of_mem_take (hp.subset hx))) (hi.ack_ok m j t hack).1⟩

/-- log matching in one statement: `node_lm` and `glog_lm` give the hypotheses, for a node's log and for a leader log -/
theorem take_eq_of_on_glog {s : AState} {l1 l2 : List AEntry} {i : Nat}
    (h1 : ∃ c g, s.glog (termAt l1 i) = some (c, g) ∧ i ≤ g.length ∧ l1.take i = g.take i)
    (h2 : ∃ c g, s.glog (termAt l2 i) = some (c, g) ∧ i ≤ g.length ∧ l2.take i = g.take i)
    (ht : termAt l1 i = termAt l2 i) : l1.take i = l2.take i := by
  obtain ⟨c1, g1, hg1, _, hp1⟩ := h1
  obtain ⟨c2, g2, hg2, _, hp2⟩ := h2
  cases (ht ▸ hg1).symm.trans hg2
  exact hp1.trans hp2.symm

theorem lm_agree {cfg : Config} {s : AState} (hi : Inv cfg s) (n T c : Nat) (g : List AEntry) (hg : s.glog T = some (c, g))
    (i : Nat) (hl : i ≤ (s.nodes n).log.length) (hgl : i ≤ g.length)
    (ht : termAt (s.nodes n).log i = termAt g i) : (s.nodes n).log.take i = g.take i := by
  rcases Nat.eq_zero_or_pos i with rfl | h1
  · rfl
  · exact take_eq_of_on_glog (hi.node_lm n i h1 hl) (hi.glog_lm T c g hg i h1 hgl) ht

theorem Inv.log_matching {cfg : Config} {s : AState} (hi : Inv cfg s) (a b i : Nat)
    (h1 : 1 ≤ i) (ha : i ≤ (s.nodes a).log.length) (hb : i ≤ (s.nodes b).log.length)
    (ht : termAt (s.nodes a).log i = termAt (s.nodes b).log i) : (s.nodes a).log.take i = (s.nodes b).log.take i :=
  take_eq_of_on_glog (hi.node_lm a i h1 ha) (hi.node_lm b i h1 hb) ht

theorem lm_agree_glog {cfg : Config} {s : AState} (hi : Inv cfg s) (T1 c1 : Nat) (g1 : List AEntry) (T2 c2 : Nat) (g2 : List AEntry)
    (h1g : s.glog T1 = some (c1, g1)) (h2g : s.glog T2 = some (c2, g2))
    (i : Nat) (h1 : 1 ≤ i) (hl1 : i ≤ g1.length) (hl2 : i ≤ g2.length)
    (ht : termAt g1 i = termAt g2 i) : g1.take i = g2.take i :=
  take_eq_of_on_glog (hi.glog_lm T1 c1 g1 h1g i h1 hl1) (hi.glog_lm T2 c2 g2 h2g i h1 hl2) ht

end Repl
end Raft
