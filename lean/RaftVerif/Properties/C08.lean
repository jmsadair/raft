/-
  Properties/C08.lean — term and vote are monotone and durable; one real vote per term
  across crashes; votes only for up-to-date candidates; prevotes are pure.
-/
import RaftVerif.Proofs.RequestVote
import RaftVerif.Proofs.AppendEntries
namespace Raft

/-- Terms never decrease and the reply carries the voter's term after the section. -/
theorem C08_term_monotone {n n' : Node} {now : Nat} {q : RVReq} {r : RVResp} {eff : List Effect}
    (h : requestVote n now q = some (n', r, eff)) : n.term ≤ n'.term ∧ r.term = n'.term := by
  cases requestVote_cases h with
  | ignore | prevote => exact ⟨Nat.le_refl _, rfl⟩
  | refuse => exact ⟨(rvEnter_follows n now q).term_le, rfl⟩
  | grant _ hle hp => exact ⟨(rvEnter_follows n now q).term_le, (rvEnter_term_vote n now hp hle).1.symm⟩

/-- A prevote never changes the voter (term, vote, contact time, role, anything) and
    touches no storage, whatever it answers. -/
theorem C08_prevote_pure {n n' : Node} {now : Nat} {q : RVReq} {r : RVResp} {eff : List Effect}
    (h : requestVote n now q = some (n', r, eff)) (hp : q.prevote = true) : n' = n ∧ eff = [] := by
  cases requestVote_cases h with
  | ignore | prevote => exact ⟨rfl, rfl⟩
  | refuse => rw [rvEnter_prevote n now hp]; exact ⟨rfl, rfl⟩
  | grant _ _ hp' => rw [hp] at hp'; cases hp'

/-- A vote (real or pre-) is granted only to a candidate whose log is at least as up to
    date as the voter's: `(lastTerm, lastIndex)` compared lexicographically. -/
theorem C08_vote_up_to_date {n n' : Node} {now : Nat} {q : RVReq} {r : RVResp} {eff : List Effect}
    (h : requestVote n now q = some (n', r, eff)) (hg : r.granted = true) :
    n.log.lastTerm < q.lastTerm ∨ (n.log.lastTerm = q.lastTerm ∧ n.log.lastIndex ≤ q.lastIndex) :=
  requestVote_upToDate h hg

/-- A granted real vote is recorded and persisted (last storage effect) before the reply,
    for the request's term; and it is never a second vote of that term. -/
theorem C08_grant_recorded {n n' : Node} {now : Nat} {q : RVReq} {r : RVResp} {eff : List Effect}
    (h : requestVote n now q = some (n', r, eff)) (hg : r.granted = true) (hp : q.prevote = false) :
    n'.term = q.term ∧ r.term = q.term ∧ n'.votedFor = q.candidate ∧
    (∃ pre, eff = pre ++ [Effect.setState q.term q.candidate]) ∧
    (q.term = n.term → n.votedFor = 0 ∨ n.votedFor = q.candidate) := by
  cases requestVote_cases h with
  | ignore | refuse => cases hg
  | prevote _ _ hp' => rw [hp] at hp'; cases hp'
  | grant _ hle _ _ hv =>
    obtain ⟨ht, hvote⟩ := rvEnter_term_vote n now hp hle
    refine ⟨ht, rfl, rfl, ⟨_, rfl⟩, fun heq => ?_⟩
    rwa [hvote, if_neg (Nat.not_lt.mpr (Nat.le_of_eq heq))] at hv

/-- `RequestVote` as a section; the grant is what the candidate sees: the reply's term. -/
def rvSect (now : Nat) (q : RVReq) : Sect := fun n =>
  (requestVote n now q).map fun x =>
    (x.1, x.2.2, if x.2.1.granted && !q.prevote then some ⟨x.2.1.term, q.candidate⟩ else none)

/-- `AppendEntries` as a section (it never grants a vote). -/
def aeSect (now : Nat) (q : AEReq) : Sect := fun n =>
  (appendEntries n now q).map fun x => (x.1, x.2.2, none)

theorem rvSect_good (now : Nat) (q : RVReq) (hc : q.candidate ≠ 0) : (rvSect now q).Good := by
  refine .of_handler (g := fun r => if r.granted && !q.prevote then some ⟨r.term, q.candidate⟩ else none)
    requestVote_tvRun fun {n n' r eff t c} hr hg => ?_
  split at hg
  · next hcond =>
    simp only [Bool.and_eq_true, Bool.not_eq_eq_eq_not, Bool.not_true] at hcond
    cases hg
    obtain ⟨e1, e2, e3, _⟩ := C08_grant_recorded hr hcond.1 hcond.2
    exact ⟨e1.trans e2.symm, e3, hc⟩
  · cases hg

theorem aeSect_good (now : Nat) (q : AEReq) : (aeSect now q).Good :=
  .of_handler (g := fun _ => none) appendEntries_tvRun nofun

/-- What a voter can be subjected to: vote requests and replication requests with
    arbitrary fields at arbitrary times, each either run to completion or cut by a crash
    after `k` of its effects (all effects are counted, so every cut between two storage writes
    occurs) and followed by a restart (as node `r`, whose term
    and vote are what the cut left on disk; everything else about `r` is arbitrary). -/
inductive VoterStim
  | rv (now : Nat) (q : RVReq)
  | ae (now : Nat) (q : AEReq)
  | rvCrash (now : Nat) (q : RVReq) (k : Nat) (r : Node)
  | aeCrash (now : Nat) (q : AEReq) (k : Nat) (r : Node)

def VoterStim.toStim : VoterStim → Stim
  | .rv now q => .run (rvSect now q)
  | .ae now q => .run (aeSect now q)
  | .rvCrash now q k r => .crashIn (rvSect now q) k r
  | .aeCrash now q k r => .crashIn (aeSect now q) k r

/-- Candidate ids are never the empty string. -/
def VoterStim.Valid : VoterStim → Prop
  | .rv _ q => q.candidate ≠ 0
  | .rvCrash _ q _ _ => q.candidate ≠ 0
  | _ => True

/-- **C08, one vote per term across crashes.** From any voter state, along any finite
    sequence of stimuli with crashes at any storage-effect boundary, the real votes the
    node ever sent out name at most one candidate per term, and its term never
    decreases (also across restarts). -/
theorem C08_one_vote_per_term (n0 : Node) (sts : List VoterStim) (s' : Trace)
    (hv : ∀ st ∈ sts, st.Valid) (he : Execs ⟨n0, []⟩ (sts.map VoterStim.toStim) s') :
    UniqueVotes s'.grants ∧ n0.term ≤ s'.node.term := by
  have hg : ∀ st ∈ sts.map VoterStim.toStim, st.Good := List.forall_mem_map.mpr fun v hvm => by
    have := hv v hvm
    cases v with
    | rv now q | rvCrash now q => exact rvSect_good now q this
    | ae now q | aeCrash now q => exact aeSect_good now q
  have := execs_ok hg he ⟨nofun, nofun, nofun, nofun⟩
  exact ⟨this.1.unique, this.2⟩

/-! Non-vacuity: the scenario that broke the property before the `fix:` commit — vote for
    candidate 2 in term 5, then an AppendEntries of the same term 5 while pre-candidate,
    then a vote request of candidate 3 in term 5 — runs, and the second vote is refused. -/
def exVoter : Node := { id := 1, term := 4, config := ⟨1, [(1, true), (2, true), (3, true)]⟩, lastContact := 0 }
def exRV2 : RVReq := { candidate := 2, term := 5, lastIndex := 0, lastTerm := 0, prevote := false }
def exRV3 : RVReq := { candidate := 3, term := 5, lastIndex := 0, lastTerm := 0, prevote := false }
def exAE5 : AEReq := { leaderId := 2, term := 5, leaderCommit := 0, prevIndex := 9, prevTerm := 4, entries := [] }

example :
    ∃ n1 r1 e1 n2 r2 e2 n3 r3 e3,
      requestVote exVoter 1000 exRV2 = some (n1, r1, e1) ∧ r1.granted = true ∧
      appendEntries { n1 with role := .precandidate } 2000 exAE5 = some (n2, r2, e2) ∧ r2.success = false ∧
      requestVote n2 3000 exRV3 = some (n3, r3, e3) ∧ r3.granted = false ∧ n3.votedFor = 2 := by
  refine ⟨_, _, _, _, _, _, _, _, _, rfl, by decide, rfl, by decide, rfl, by decide, by decide⟩

end Raft
