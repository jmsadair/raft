/-
  Proofs/NodeLemmas.lean — the role-transition helpers: what they write, what they emit, what they leave
  untouched. A helper that branches gets one equation `x = { n with f := a, g := b }` for its node (the written
  values existentially quantified), so that a fact about any other field is `rw` + `rfl`, and one lemma `mem_x`
  with the shapes an emitted effect can have, from which `fatal ∉`, `logTruncate i ∉`, "persists nothing"
  follow by `cases`.

  Idiom, here and in the files about the handlers: `split` re-simplifies the whole term at every call. On an
  unfolded handler (nested `if`s over updates of the 28-field `Node` record) that costs about fifty times as
  much as deciding each `if` with `by_cases h` and `rw [if_pos h]`; on a term with a single `if` left it is cheap.
-/
import RaftVerif.Model.Handlers
namespace Raft
namespace Node

@[simp] theorem resetSnapshots_log (n : Node) : n.resetSnapshots.1.log = n.log := rfl
@[simp] theorem resetSnapshots_term (n : Node) : n.resetSnapshots.1.term = n.term := rfl
@[simp] theorem resetSnapshots_votedFor (n : Node) : n.resetSnapshots.1.votedFor = n.votedFor := rfl
@[simp] theorem resetSnapshots_role (n : Node) : n.resetSnapshots.1.role = n.role := rfl
@[simp] theorem resetSnapshots_commitIndex (n : Node) : n.resetSnapshots.1.commitIndex = n.commitIndex := rfl
@[simp] theorem resetSnapshots_config (n : Node) : n.resetSnapshots.1.config = n.config := rfl
@[simp] theorem resetSnapshots_id (n : Node) : n.resetSnapshots.1.id = n.id := rfl

@[simp] theorem becomeFollower_log (n : Node) (now l t : Nat) : (n.becomeFollower now l t).1.log = n.log := rfl
@[simp] theorem becomeFollower_term (n : Node) (now l t : Nat) : (n.becomeFollower now l t).1.term = t := rfl
@[simp] theorem becomeFollower_role (n : Node) (now l t : Nat) : (n.becomeFollower now l t).1.role = .follower := rfl
@[simp] theorem becomeFollower_commitIndex (n : Node) (now l t : Nat) :
    (n.becomeFollower now l t).1.commitIndex = n.commitIndex := rfl
@[simp] theorem becomeFollower_lastApplied (n : Node) (now l t : Nat) :
    (n.becomeFollower now l t).1.lastApplied = n.lastApplied := rfl
@[simp] theorem becomeFollower_config (n : Node) (now l t : Nat) : (n.becomeFollower now l t).1.config = n.config := rfl
@[simp] theorem becomeFollower_committed (n : Node) (now l t : Nat) :
    (n.becomeFollower now l t).1.committed = n.committed := rfl
@[simp] theorem becomeFollower_snapIndex (n : Node) (now l t : Nat) :
    (n.becomeFollower now l t).1.snapIndex = n.snapIndex := rfl
@[simp] theorem becomeFollower_snapTerm (n : Node) (now l t : Nat) :
    (n.becomeFollower now l t).1.snapTerm = n.snapTerm := rfl
@[simp] theorem becomeFollower_id (n : Node) (now l t : Nat) : (n.becomeFollower now l t).1.id = n.id := rfl
@[simp] theorem becomeFollower_et (n : Node) (now l t : Nat) : (n.becomeFollower now l t).1.et = n.et := rfl
@[simp] theorem becomeFollower_lastContact (n : Node) (now l t : Nat) :
    (n.becomeFollower now l t).1.lastContact = n.lastContact := rfl
@[simp] theorem becomeFollower_votedFor (n : Node) (now l t : Nat) :
    (n.becomeFollower now l t).1.votedFor = if t > n.term then 0 else n.votedFor := rfl

theorem becomeFollower_snd (n : Node) (now l t : Nat) :
    ∃ rest, (n.becomeFollower now l t).2 = Effect.setState t (if t > n.term then 0 else n.votedFor) :: rest ∧
      ∀ e ∈ rest, e = .snapDiscard ∨ e = .failFutures ∨ e = .failConfigFuture := by
  refine ⟨(if n.recv.isSome then [.snapDiscard] else []) ++ [.failFutures] ++
    (if n.cfgFuture.isSome then [.failConfigFuture] else []), rfl, fun e he => ?_⟩
  simp only [List.mem_append, List.mem_ite_nil_right, List.mem_singleton] at he
  rcases he with (⟨_, he⟩ | he) | ⟨_, he⟩ <;> simp [he]

theorem becomeFollower_effects (n : Node) (now l t : Nat) :
    ∃ rest, (n.becomeFollower now l t).2 = Effect.setState t (if t > n.term then 0 else n.votedFor) :: rest :=
  let ⟨rest, h, _⟩ := becomeFollower_snd n now l t; ⟨rest, h⟩

@[simp] theorem stepdown_log (n : Node) (now : Nat) : (n.stepdown now).1.log = n.log := rfl
@[simp] theorem stepdown_term (n : Node) (now : Nat) : (n.stepdown now).1.term = n.term := rfl
@[simp] theorem stepdown_commitIndex (n : Node) (now : Nat) : (n.stepdown now).1.commitIndex = n.commitIndex := rfl
@[simp] theorem stepdown_votedFor (n : Node) (now : Nat) : (n.stepdown now).1.votedFor = n.votedFor := rfl

/-- `panic`: the nil pointer the truncation fallback may pass (`none`). -/
theorem mem_nextConfiguration {n : Node} {now : Nat} {c : Option Config} {e : Effect}
    (h : e ∈ (n.nextConfiguration now c).2) : (c = none ∧ e = .panic) ∨ e = .failFutures ∨ e = .snapDiscard := by
  cases c with
  | none => exact .inl ⟨rfl, List.mem_singleton.mp h⟩
  | some c =>
    refine .inr ?_
    unfold nextConfiguration at h
    by_cases hm : c.isMember n.id = true
    · simp only [if_pos hm] at h; cases h
    · -- leaving the configuration: a leader steps down, the snapshot file in progress is dropped
      by_cases hl : n.role = .leader
      · simp only [if_neg hm, if_pos hl, stepdown, resetSnapshots, List.mem_append, List.mem_singleton,
          List.mem_ite_nil_right] at h
        exact h.imp_right And.right
      · simp only [if_neg hm, if_neg hl, resetSnapshots, List.nil_append, List.mem_ite_nil_right, List.mem_singleton] at h
        exact .inr h.2

/-- `nextConfiguration` neither reads nor writes the log and the snapshot boundary: the values written (the
    fields of `k`) and the effects are the same whatever `l`, `i`, `t`. -/
theorem nextConfiguration_eq (n : Node) (now : Nat) (c : Option Config) :
    ∃ (k : Node) (e : List Effect), ∀ (l : Log) (i t : Nat),
      Node.nextConfiguration { n with log := l, snapIndex := i, snapTerm := t } now c =
        ({ n with log := l, snapIndex := i, snapTerm := t, role := k.role, followers := k.followers, config := k.config,
                  pendingRep := k.pendingRep, pendingReads := k.pendingReads, shouldVerify := k.shouldVerify,
                  leaseExpiry := k.leaseExpiry, readSeq := k.readSeq, recv := k.recv }, e) := by
  -- the witnesses must not depend on `l i t`: they are taken from `n` itself
  refine ⟨(n.nextConfiguration now c).1, (n.nextConfiguration now c).2, fun l i t => ?_⟩
  cases c with
  | none => rfl
  | some c =>
    unfold Node.nextConfiguration
    by_cases hm : c.isMember n.id = true
    · simp only [if_pos hm]
    · by_cases hl : n.role = .leader
      · simp only [if_neg hm, if_pos hl]; rfl
      · simp only [if_neg hm, if_neg hl]; rfl

theorem nextConfiguration_node (n : Node) (now : Nat) (c : Option Config) :
    ∃ k : Node, (n.nextConfiguration now c).1 =
      { n with role := k.role, followers := k.followers, config := k.config, pendingRep := k.pendingRep,
               pendingReads := k.pendingReads, shouldVerify := k.shouldVerify, leaseExpiry := k.leaseExpiry, readSeq := k.readSeq,
               recv := k.recv } ∧
      (k.role = .leader → n.role = .leader) ∧ (∀ c', c = some c' → k.config = c') := by
  obtain ⟨k, e, h⟩ := nextConfiguration_eq n now c
  have hk : (n.nextConfiguration now c).1 = _ := congrArg Prod.fst (h n.log n.snapIndex n.snapTerm)
  refine ⟨k, hk, fun hr => ?_, fun c' hc => ?_⟩
  · -- the role is written only by `stepdown`, to `follower`
    have hl : (n.nextConfiguration now c).1.role = .leader := by rw [hk]; exact hr
    cases c with
    | none => exact hl
    | some c =>
      by_cases hm : c.isMember n.id = true
      · simp only [nextConfiguration, if_pos hm] at hl; exact hl
      · by_cases hnl : n.role = .leader
        · exact hnl
        · simp only [nextConfiguration, if_neg hm, if_neg hnl] at hl; exact hl
  · have hcf : (n.nextConfiguration now (some c')).1.config = c' := by unfold nextConfiguration; rfl
    rwa [← hc, hk] at hcf

theorem nextConfiguration_with3 (n : Node) (l' : Log) (i t now : Nat) (c : Option Config) :
    Node.nextConfiguration { n with log := l', snapIndex := i, snapTerm := t } now c =
      ({ (n.nextConfiguration now c).1 with log := l', snapIndex := i, snapTerm := t }, (n.nextConfiguration now c).2) := by
  obtain ⟨k, e, h⟩ := nextConfiguration_eq n now c
  have h0 : n.nextConfiguration now c = _ := h n.log n.snapIndex n.snapTerm
  rw [h, h0]

/-- The two arms of `applyConfiguration` that get past the index test are the same. -/
theorem applyConfiguration_eq (n : Node) (now : Nat) (c : Config) :
    n.applyConfiguration now c =
      if n.committed.any (c.index ≤ ·.index) then (n, [])
      else ({ (n.nextConfiguration now (some c)).1 with committed := some c }, (n.nextConfiguration now (some c)).2) := by
  unfold applyConfiguration
  cases n.committed with
  | none => rfl
  | some cc =>
    by_cases h : c.index ≤ cc.index
    · simp only [Option.any_some, decide_eq_true h, if_true, if_pos h]
    · simp only [Option.any_some, decide_eq_false h, Bool.false_eq_true, if_false, if_neg h]

theorem applyConfiguration_node (n : Node) (now : Nat) (c : Config) :
    ∃ k : Node, (n.applyConfiguration now c).1 =
      { n with role := k.role, followers := k.followers, config := k.config, pendingRep := k.pendingRep,
               pendingReads := k.pendingReads, shouldVerify := k.shouldVerify, leaseExpiry := k.leaseExpiry, readSeq := k.readSeq,
               recv := k.recv, committed := k.committed } := by
  obtain ⟨k, hk, _⟩ := nextConfiguration_node n now (some c)
  rw [applyConfiguration_eq]
  by_cases hi : n.committed.any (c.index ≤ ·.index) = true
  · rw [if_pos hi]; exact ⟨n, rfl⟩
  · rw [if_neg hi, hk]; exact ⟨{ k with committed := some c }, rfl⟩

theorem mem_applyConfiguration {n : Node} {now : Nat} {c : Config} {e : Effect}
    (h : e ∈ (n.applyConfiguration now c).2) : e = .failFutures ∨ e = .snapDiscard := by
  rw [applyConfiguration_eq] at h
  split at h
  · cases h
  · exact (mem_nextConfiguration h).resolve_left nofun

/-- `r` is `n` itself, or `n` after `becomeFollower` to a term `t` that is not below its own: what the
    term check at the head of every handler produces (`rvEnter`, `aeEnter`, `isEnter`). -/
inductive MaybeFollows (n : Node) (now t : Nat) : Node × List Effect → Prop
  | stay : MaybeFollows n now t (n, [])
  | follow (l : Nat) : n.term ≤ t → MaybeFollows n now t (n.becomeFollower now l t)

namespace MaybeFollows
variable {n : Node} {now t : Nat} {r : Node × List Effect} (h : MaybeFollows n now t r)
include h

theorem log : r.1.log = n.log := by cases h <;> rfl
theorem commitIndex : r.1.commitIndex = n.commitIndex := by cases h <;> rfl
theorem lastApplied : r.1.lastApplied = n.lastApplied := by cases h <;> rfl
theorem snapIndex : r.1.snapIndex = n.snapIndex := by cases h <;> rfl
theorem snapTerm : r.1.snapTerm = n.snapTerm := by cases h <;> rfl
theorem snaps : r.1.snaps = n.snaps := by cases h <;> rfl
theorem config : r.1.config = n.config := by cases h <;> rfl
theorem committed : r.1.committed = n.committed := by cases h <;> rfl
theorem id : r.1.id = n.id := by cases h <;> rfl
theorem rvRounds : r.1.rvRounds = n.rvRounds := by cases h <;> rfl
theorem nextRound : r.1.nextRound = n.nextRound := by cases h <;> rfl
theorem term_le : n.term ≤ r.1.term := by cases h <;> first | exact Nat.le_refl _ | assumption
theorem leader (hl : r.1.role = .leader) : n.role = .leader ∧ r.1.term = n.term := by
  cases h with
  | stay => exact ⟨hl, rfl⟩
  | follow => cases hl
theorem mem_snd {e : Effect} (he : e ∈ r.2) :
    (∃ v, e = .setState t v) ∨ e = .snapDiscard ∨ e = .failFutures ∨ e = .failConfigFuture := by
  cases h with
  | stay => cases he
  | follow l _ =>
    obtain ⟨rest, hr, hrest⟩ := becomeFollower_snd n now l t
    exact (List.mem_cons.mp (hr ▸ he)).imp (⟨_, ·⟩) (hrest e)
theorem no_fatal : Effect.fatal ∉ r.2 := fun he => by
  rcases h.mem_snd he with ⟨_, h⟩ | h | h | h <;> cases h
theorem no_truncate (c : Nat) : Effect.logTruncate c ∉ r.2 := fun he => by
  rcases h.mem_snd he with ⟨_, h⟩ | h | h | h <;> cases h
end MaybeFollows

/-- The term handling at the head of `AppendEntries` and `InstallSnapshot` (`aeEnter`, `isEnter`): two tests with a
    `becomeFollower` each. They are at most one `becomeFollower`: the second test can only succeed when the first
    did not. -/
theorem becomeFollower_twice (m : Node) (now l t : Nat) :
    (let r1 := if t > m.term then m.becomeFollower now l t else (m, [])
     let r2 := if t = r1.1.term ∧ (r1.1.role = .candidate ∨ r1.1.role = .precandidate)
       then r1.1.becomeFollower now l t else (r1.1, [])
     (r2.1, r1.2 ++ r2.2)) =
      if t > m.term ∨ (t = m.term ∧ (m.role = .candidate ∨ m.role = .precandidate)) then m.becomeFollower now l t
      else (m, []) := by
  by_cases h1 : t > m.term
  · simp only [if_pos h1, if_pos (Or.inl h1 : _ ∨ _), becomeFollower_role, reduceCtorEq, or_self, and_false, if_false,
      List.append_nil]
  · by_cases h2 : t = m.term ∧ (m.role = .candidate ∨ m.role = .precandidate)
    · simp only [if_neg h1, if_pos h2, if_pos (Or.inr h2 : _ ∨ _), List.nil_append]
    · simp only [if_neg h1, if_neg h2, if_neg (not_or.mpr ⟨h1, h2⟩), List.nil_append]

theorem MaybeFollows.twice (m : Node) (now l t : Nat) :
    MaybeFollows m now t (if t > m.term ∨ (t = m.term ∧ (m.role = .candidate ∨ m.role = .precandidate))
      then m.becomeFollower now l t else (m, [])) := by
  split
  · rename_i h; exact .follow _ (h.elim Nat.le_of_lt fun h => Nat.le_of_eq h.1.symm)
  · exact .stay

end Node
end Raft
