/-
  Proofs/ReplProgress.lean — no reachable state of the replication-layer model is a dead end.

  From every reachable state there is the continuation a fault-free period allows — the voter with the most
  up-to-date log times out, the others grant, the winner replicates its log and commits — at the end of which
  every voter holds the leader's log, all of it committed. This is the possibility half of C15; that timers and
  network make it happen within a bounded time is what the E4 fault-free periods check.
-/
import RaftVerif.Proofs.ReplSnapshot
namespace Raft
namespace Repl

/-- `s'` is reached from `s` in exactly `k` steps -/
inductive ReachableIn (cfg : Config) (s : AState) : Nat → AState → Prop
  | base : ReachableIn cfg s 0 s
  | step {k a b} : ReachableIn cfg s k a → Step cfg a b → ReachableIn cfg s (k + 1) b

theorem ReachableIn.trans {cfg : Config} {a b c : AState} {j k : Nat} (h1 : ReachableIn cfg a j b) (h2 : ReachableIn cfg b k c) :
    ReachableIn cfg a (j + k) c := by
  induction h2 with
  | base => exact h1
  | step _ hs ih => exact ReachableIn.step ih hs

theorem ReachableIn.one {cfg : Config} {a b : AState} (h : Step cfg a b) : ReachableIn cfg a 1 b :=
  ReachableIn.step ReachableIn.base h

theorem ReachableIn.cast {cfg : Config} {a b : AState} {j k : Nat} (h : ReachableIn cfg a j b) (e : j = k) : ReachableIn cfg a k b :=
  e ▸ h

theorem ReachableIn.toFrom {cfg : Config} {a b : AState} {k : Nat} (h : ReachableIn cfg a k b) : ReachableFrom cfg a b := by
  induction h with
  | base => exact ReachableFrom.base
  | step _ hs ih => exact ReachableFrom.step ih hs

theorem all_voters_quorum (cfg : Config) (hnd : cfg.voterIds.Nodup) (hne : cfg.voterIds ≠ []) : IsQuorum cfg cfg.voterIds := by
  refine ⟨hnd, fun v => (cfg.isVoter_iff_mem v).mpr, ?_⟩
  rw [Config.hasQuorum_iff, ← cfg.voterIds_length]
  exact Nat.div_lt_self (List.length_pos_iff.mpr hne) (Nat.lt_succ_self 1)

theorem exists_bound (f : Nat → Nat) (vs : List Nat) : ∃ B, ∀ v ∈ vs, f v ≤ B := by
  induction vs with
  | nil => exact ⟨0, nofun⟩
  | cons v vs ih =>
    obtain ⟨B, hB⟩ := ih
    exact ⟨max B (f v), List.forall_mem_cons.mpr
      ⟨Nat.le_max_right _ _, fun x h => Nat.le_trans (hB x h) (Nat.le_max_left _ _)⟩⟩

theorem exists_most_upToDate (logs : Nat → List AEntry) (vs : List Nat) (hne : vs ≠ []) :
    ∃ c ∈ vs, ∀ m ∈ vs, lastTerm (logs c) > lastTerm (logs m) ∨
      (lastTerm (logs c) = lastTerm (logs m) ∧ (logs c).length ≥ (logs m).length) := by
  induction vs with
  | nil => exact absurd rfl hne
  | cons v vs ih =>
    by_cases hvs : vs = []
    · subst hvs
      exact ⟨v, .head _, fun m hm => List.mem_singleton.mp hm ▸ .inr ⟨rfl, Nat.le_refl _⟩⟩
    · obtain ⟨c, hc, hmax⟩ := ih hvs
      by_cases hge : lastTerm (logs v) > lastTerm (logs c) ∨
          (lastTerm (logs v) = lastTerm (logs c) ∧ (logs v).length ≥ (logs c).length)
      · refine ⟨v, .head _, List.forall_mem_cons.mpr ⟨.inr ⟨rfl, Nat.le_refl _⟩, fun m h => ?_⟩⟩
        have := hmax m h; omega
      · exact ⟨c, .tail _ hc, List.forall_mem_cons.mpr ⟨by omega, hmax⟩⟩

theorem grant_all {cfg : Config} (q : RVMsg) (T0 : Nat) (hq : T0 < q.term) :
    ∀ (ms : List Nat) (s : AState), ms.Nodup → q ∈ s.rvs →
      (∀ m ∈ ms, (s.nodes m).term ≤ T0) →
      (∀ m ∈ ms, upToDate q (s.nodes m).log) →
      (∀ m ∈ ms, ∀ c', (q.term, m, c') ∈ s.votes → c' = q.cand) →
      ∃ s', ReachableIn cfg s ms.length s' ∧
        (∀ m ∈ ms, (q.term, m, q.cand) ∈ s'.votes) ∧ (∀ x ∈ s.votes, x ∈ s'.votes) ∧
        (∀ j, j ∉ ms → s'.nodes j = s.nodes j) ∧
        (∀ m ∈ ms, (s'.nodes m).term = q.term ∧ (s'.nodes m).role = .follower ∧
          (s'.nodes m).log = (s.nodes m).log ∧ (s'.nodes m).commit = (s.nodes m).commit) ∧
        s'.glog = s.glog ∧ s'.acked = s.acked ∧ s'.aes = s.aes := by
  intro ms
  induction ms with
  | nil => exact fun s _ _ _ _ _ => ⟨s, .base, nofun, fun _ h => h, fun _ _ => rfl, nofun, rfl, rfl, rfl⟩
  | cons m ms ih =>
    intro s hnd hqin hterm hup hvotes
    obtain ⟨hmn, hnd'⟩ := List.nodup_cons.mp hnd
    have ht := Nat.lt_of_le_of_lt (hterm m (.head _)) hq
    have hstep : Step cfg s (grantS s m q) := .grant s m q hqin (Nat.le_of_lt ht) (hvotes m (.head _)) (hup m (.head _))
    have hnode : (grantS s m q).nodes m = { s.nodes m with term := q.term, role := .follower } := by
      simp only [grantS, setNode_same, if_pos ht]
    have hother : ∀ j, j ≠ m → (grantS s m q).nodes j = s.nodes j := fun j hj => setNode_other _ _ hj
    have hne : ∀ m' ∈ ms, m' ≠ m := fun _ h => ne_of_mem_of_not_mem h hmn
    obtain ⟨s', hreach, hv1, hvs, hfr, hnodes, hg, ha, hae⟩ := ih (grantS s m q) hnd' hqin
      (fun m' h => hother m' (hne m' h) ▸ hterm m' (.tail _ h))
      (fun m' h => hother m' (hne m' h) ▸ hup m' (.tail _ h))
      (fun m' h c' hc' => by
        rcases List.mem_cons.mp hc' with heq | hold
        · cases heq; rfl
        · exact hvotes m' (.tail _ h) c' hold)
    refine ⟨s', ((ReachableIn.one hstep).trans hreach).cast (Nat.add_comm _ _),
      List.forall_mem_cons.mpr ⟨hvs _ (.head _), hv1⟩, fun x hx => hvs x (.tail _ hx),
      fun j hj => (hfr j (List.not_mem_of_not_mem_cons hj)).trans (hother j (List.ne_of_not_mem_cons hj)),
      List.forall_mem_cons.mpr ⟨?_, fun x h => hother x (hne x h) ▸ hnodes x h⟩, hg, ha, hae⟩
    rw [hfr m hmn, hnode]; exact ⟨rfl, rfl, rfl, rfl⟩

theorem replicate_one {cfg : Config} (hnd : cfg.voterIds.Nodup) {s : AState} (hr : Reachable cfg s)
    (l n prev k : Nat) (hl : (s.nodes l).role = .leader) (hp : prev ≤ (s.nodes l).log.length) (hn : n ≠ l)
    (ht : (s.nodes n).term ≤ (s.nodes l).term) (hpn : prev ≤ (s.nodes n).log.length)
    (hpt : termAt (s.nodes n).log prev = termAt (s.nodes l).log prev) :
    ∃ s2, ReachableIn cfg s 2 s2 ∧
      s2.nodes n = { term := (s.nodes l).term, role := .follower,
                     log := merge (s.nodes n).log prev (((s.nodes l).log.drop prev).take k),
                     commit := max (s.nodes n).commit (min (s.nodes l).commit (prev + (((s.nodes l).log.drop prev).take k).length)) } ∧
      (∀ j, j ≠ n → s2.nodes j = s.nodes j) ∧ s2.glog = s.glog ∧ s2.votes = s.votes ∧
      s2.acked = (n, prev + (((s.nodes l).log.drop prev).take k).length, (s.nodes l).term) :: s.acked := by
  obtain ⟨h1, h2⟩ := send_recv hnd hr l n prev k 0 hl hp hn ht hpn hpt
  exact ⟨_, .step (.step .base h1) h2, setNode_same _ _ _, fun j hj => setNode_other _ _ hj, rfl, rfl, rfl⟩

theorem replicate_each {cfg : Config} (hnd : cfg.voterIds.Nodup) (l prev k : Nat) (n0 : ANode) (hl : n0.role = .leader)
    (hp : prev ≤ n0.log.length) :
    ∀ (ms : List Nat) (s : AState), Reachable cfg s → ms.Nodup → l ∉ ms → s.nodes l = n0 →
      (∀ m ∈ ms, (s.nodes m).term ≤ n0.term ∧ prev ≤ (s.nodes m).log.length ∧ termAt (s.nodes m).log prev = termAt n0.log prev) →
      ∃ s', ReachableIn cfg s (2 * ms.length) s' ∧
        (∀ m ∈ ms, s'.nodes m = { term := n0.term, role := .follower,
                                  log := merge (s.nodes m).log prev ((n0.log.drop prev).take k),
                                  commit := max (s.nodes m).commit (min n0.commit (prev + ((n0.log.drop prev).take k).length)) } ∧
                    (m, prev + ((n0.log.drop prev).take k).length, n0.term) ∈ s'.acked) ∧
        (∀ j, j ∉ ms → s'.nodes j = s.nodes j) ∧ s'.glog = s.glog ∧ s'.votes = s.votes ∧
        (∀ x ∈ s.acked, x ∈ s'.acked) := by
  intro ms
  induction ms with
  | nil => exact fun s _ _ _ _ _ => ⟨s, .base, nofun, fun _ _ => rfl, rfl, rfl, fun _ h => h⟩
  | cons m ms ih =>
    intro s hr hndm hlm hn0 hms
    obtain ⟨hmn, hnd'⟩ := List.nodup_cons.mp hndm
    have hlm' : l ≠ m := List.ne_of_not_mem_cons hlm
    obtain ⟨hmt, hmp, hmpt⟩ := hms m (.head _)
    subst hn0
    obtain ⟨s2, hreach, hnode, hother, hg2, hv2, ha2⟩ := replicate_one hnd hr l m prev k hl hp hlm'.symm hmt hmp hmpt
    have hne : ∀ m' ∈ ms, m' ≠ m := fun _ h => ne_of_mem_of_not_mem h hmn
    obtain ⟨s', hreach', hall, hfr, hg', hv', ha'⟩ := ih s2 (reachable_trans hr hreach.toFrom) hnd' (List.not_mem_of_not_mem_cons hlm) (hother l hlm')
      (fun m' h => hother m' (hne m' h) ▸ hms m' (.tail _ h))
    exact ⟨s', (hreach.trans hreach').cast (by rw [List.length_cons]; omega),
      List.forall_mem_cons.mpr ⟨⟨(hfr m hmn).trans hnode, ha' _ (ha2 ▸ .head _)⟩, fun x h => hother x (hne x h) ▸ hall x h⟩,
      fun j hj => (hfr j (List.not_mem_of_not_mem_cons hj)).trans (hother j (List.ne_of_not_mem_cons hj)),
      hg'.trans hg2, hv'.trans hv2, fun x hx => ha' x (ha2 ▸ .tail _ hx)⟩

theorem replicate_all {cfg : Config} (hnd : cfg.voterIds.Nodup) (l T : Nat) (g : List AEntry) (hg1 : 1 ≤ g.length)
    (hlt : lastTerm g = T) :
    ∀ (ms : List Nat) (s : AState), Reachable cfg s → ms.Nodup → l ∉ ms →
      (s.nodes l).role = .leader → (s.nodes l).log = g → (s.nodes l).term = T →
      (∀ m ∈ ms, (s.nodes m).term ≤ T) → (∀ m ∈ ms, ∀ e ∈ (s.nodes m).log, e.term < T) →
      ∃ s', ReachableIn cfg s (2 * ms.length) s' ∧
        (∀ m ∈ ms, (s'.nodes m).log = g ∧ (s'.nodes m).term = T ∧ (m, g.length, T) ∈ s'.acked) ∧
        (∀ j, j ∉ ms → s'.nodes j = s.nodes j) ∧ s'.glog = s.glog ∧ s'.votes = s.votes ∧
        (∀ x ∈ s.acked, x ∈ s'.acked) := by
  intro ms s hr hndm hlm hl hlog hterm hts hes
  have hinv := inv_reachable hnd hr
  obtain ⟨s', hreach, hall, rest⟩ := replicate_each hnd l 0 g.length _ hl (Nat.zero_le _) ms s hr hndm hlm rfl
    (fun m h => ⟨hterm ▸ hts m h, Nat.zero_le _, rfl⟩)
  simp only [hlog, hterm, List.drop_zero, List.take_length, Nat.zero_add] at hall
  refine ⟨s', hreach, fun m h => ?_, rest⟩
  obtain ⟨hnode, hack⟩ := hall m h
  refine ⟨?_, by rw [hnode], hack⟩
  -- the received log is `installLog … = g`: no old entry has the new term
  have := install_eq_merge (s.nodes m).log g g.length (Nat.le_refl _) (hlog ▸ hinv.log_matching m l)
  rw [List.take_length] at this
  rw [hnode, this, installLog, if_neg, List.take_length]
  rintro ⟨hle, hte⟩
  obtain ⟨e, he, het⟩ := termAt_mem (l := (s.nodes m).log) hg1 hle
  exact Nat.ne_of_lt (hes m h e he) (het.trans (hte.trans hlt))

theorem heartbeat_all {cfg : Config} (hnd : cfg.voterIds.Nodup) (l T : Nat) (g : List AEntry) :
    ∀ (ms : List Nat) (s : AState), Reachable cfg s → ms.Nodup → l ∉ ms →
      (s.nodes l).role = .leader → (s.nodes l).log = g → (s.nodes l).term = T → (s.nodes l).commit = g.length →
      (∀ m ∈ ms, (s.nodes m).log = g ∧ (s.nodes m).term ≤ T) →
      ∃ s', ReachableIn cfg s (2 * ms.length) s' ∧
        (∀ m ∈ ms, (s'.nodes m).log = g ∧ (s'.nodes m).commit = g.length ∧ (s'.nodes m).term = T ∧ (s'.nodes m).role = .follower) ∧
        (∀ j, j ∉ ms → s'.nodes j = s.nodes j) := by
  intro ms s hr hndm hlm hl hlog hterm hcom hms
  obtain ⟨s', hreach, hall, hfr, _⟩ := replicate_each hnd l g.length 0 _ hl (hlog ▸ Nat.le_refl _) ms s hr hndm hlm rfl
    (fun m h => ⟨hterm ▸ (hms m h).2, (hms m h).1 ▸ Nat.le_refl _, by rw [(hms m h).1, hlog]⟩)
  refine ⟨s', hreach, fun m h => ?_, hfr⟩
  have hmc : (s.nodes m).commit ≤ g.length := (hms m h).1 ▸ ((inv_reachable hnd hr).commit_ok m).1
  rw [(hall m h).1, (hms m h).1, hterm, hcom]
  refine ⟨rfl, ?_, rfl, rfl⟩
  show max (s.nodes m).commit (min g.length g.length) = g.length
  rw [Nat.min_self, Nat.max_eq_right hmc]

/-- `higherTerm` to `T`, then `timeout` -/
theorem campaign {cfg : Config} (s : AState) (c T : Nat) (ht : (s.nodes c).term < T) :
    ∃ s2, ReachableIn cfg s 2 s2 ∧ s2.nodes c = { s.nodes c with term := T + 1, role := .candidate } ∧
      (∀ j, j ≠ c → s2.nodes j = s.nodes j) ∧
      s2.votes = (T + 1, c, c) :: s.votes ∧ ⟨T + 1, c, (s.nodes c).log.length, lastTerm (s.nodes c).log⟩ ∈ s2.rvs := by
  refine ⟨timeoutS (higherTermS s c T) c, .step (.one (.higherTerm s c T ht)) (.timeout _ c (by simp)), ?_, fun j hj => ?_, ?_, ?_⟩
  · simp [timeoutS, higherTermS]
  · simp [timeoutS, higherTermS, setNode, hj]
  · simp [timeoutS, higherTermS]
  · simp [timeoutS, higherTermS]

/-- **A voter whose log is at least as up to date as every voter's can be made leader**: it learns a term
    above all (`T0` bounds the voters' terms), times out, every other voter grants, and all voters are its
    quorum. The others keep their logs. -/
theorem elect_upToDate {cfg : Config} (hnd : cfg.voterIds.Nodup) (hne : cfg.voterIds ≠ []) {s : AState} (hr : Reachable cfg s)
    {c T0 : Nat} (hc : c ∈ cfg.voterIds) (hT0 : ∀ v ∈ cfg.voterIds, (s.nodes v).term ≤ T0)
    (hmax : ∀ m ∈ cfg.voterIds, lastTerm (s.nodes c).log > lastTerm (s.nodes m).log ∨
      (lastTerm (s.nodes c).log = lastTerm (s.nodes m).log ∧ (s.nodes c).log.length ≥ (s.nodes m).log.length)) :
    ∃ s', ReachableIn cfg s (2 + (cfg.voterIds.erase c).length + 1) s' ∧
      s'.nodes c = { term := T0 + 2, role := .leader, log := (s.nodes c).log ++ [⟨T0 + 2, 0⟩], commit := (s.nodes c).commit } ∧
      (c, (s.nodes c).log.length + 1, T0 + 2) ∈ s'.acked ∧
      ∀ m ∈ cfg.voterIds.erase c, (s'.nodes m).term = T0 + 2 ∧ (s'.nodes m).log = (s.nodes m).log := by
  have hinv := inv_reachable hnd hr
  have hmem : ∀ {m}, m ∈ cfg.voterIds.erase c ↔ m ≠ c ∧ m ∈ cfg.voterIds := hnd.mem_erase_iff
  obtain ⟨sB, hreachB, hBc, hBo, hBvotes, hBq⟩ := campaign (cfg := cfg) s c (T0 + 1) (Nat.lt_succ_of_le (hT0 c hc))
  obtain ⟨sC, hreachC, hCv1, hCv2, hCfr, hCn, _⟩ := grant_all (cfg := cfg) _ T0 (Nat.lt_succ_of_le (Nat.le_succ T0))
    (cfg.voterIds.erase c) sB (hnd.erase c) hBq
    (fun m h => hBo m (hmem.mp h).1 ▸ hT0 m (hmem.mp h).2)
    (fun m h => hBo m (hmem.mp h).1 ▸ hmax m (hmem.mp h).2)
    (fun m h c' hc' => by
      rw [hBvotes] at hc'
      rcases List.mem_cons.mp hc' with heq | hold
      · simp only [Prod.mk.injEq] at heq; exact absurd heq.2.1 (hmem.mp h).1
      · have : T0 + 2 ≤ T0 := Nat.le_trans (hinv.votes_term _ _ _ hold) (hT0 m (hmem.mp h).2)
        omega)
  have hCc : sC.nodes c = { s.nodes c with term := T0 + 2, role := .candidate } := (hCfr c hnd.not_mem_erase).trans hBc
  have hD : Step cfg sC (becomeLeaderS sC c) := by
    refine .becomeLeader sC c cfg.voterIds (by rw [hCc]) (all_voters_quorum cfg hnd hne) fun m hm => ?_
    rw [hCc]
    by_cases hmc : m = c
    · subst hmc; exact hCv2 _ (hBvotes ▸ .head _)
    · exact hCv1 m (hmem.mpr ⟨hmc, hm⟩)
  refine ⟨becomeLeaderS sC c, (hreachB.trans hreachC).trans (.one hD),
    by simp [becomeLeaderS, hCc], by simp [becomeLeaderS, hCc], fun m h => ?_⟩
  obtain ⟨a1, _, a3, _⟩ := hCn m h
  have : (becomeLeaderS sC c).nodes m = sC.nodes m := setNode_other _ _ (hmem.mp h).1
  rw [this, a1, a3, hBo m (hmem.mp h).1]
  exact ⟨rfl, rfl⟩

/-- **A fresh leader brings every voter to its log**: it hands its whole log to each of the others
    (none of them holds an entry of its term yet), commits it with their acknowledgements and its own, and a
    round of empty requests carries the commit index. -/
theorem leader_converges {cfg : Config} (hnd : cfg.voterIds.Nodup) (hne : cfg.voterIds ≠ []) {s : AState} (hr : Reachable cfg s)
    {c T k : Nat} {g : List AEntry} (hc : c ∈ cfg.voterIds)
    (hnode : s.nodes c = { term := T, role := .leader, log := g, commit := k }) (hg1 : 1 ≤ g.length) (hlast : lastTerm g = T)
    (hack : (c, g.length, T) ∈ s.acked)
    (hms : ∀ m ∈ cfg.voterIds.erase c, (s.nodes m).term ≤ T ∧ ∀ e ∈ (s.nodes m).log, e.term < T) :
    ∃ s', ReachableIn cfg s (2 * (cfg.voterIds.erase c).length + 1 + 2 * (cfg.voterIds.erase c).length) s' ∧
      (s'.nodes c).role = .leader ∧
      ∀ v ∈ cfg.voterIds, (s'.nodes v).log = g ∧ (s'.nodes v).commit = g.length ∧ (s'.nodes v).term = T := by
  have hmem : ∀ {m}, m ∈ cfg.voterIds.erase c ↔ m ≠ c ∧ m ∈ cfg.voterIds := hnd.mem_erase_iff
  have hcms := hnd.not_mem_erase (a := c)
  obtain ⟨sE, hreachE, hEall, hEfr, _, _, hEa⟩ := replicate_all hnd c T g hg1 hlast (cfg.voterIds.erase c) s hr (hnd.erase c) hcms
    (by rw [hnode]) (by rw [hnode]) (by rw [hnode]) (fun m h => (hms m h).1) (fun m h => (hms m h).2)
  have hEc : sE.nodes c = { term := T, role := .leader, log := g, commit := k } := (hEfr c hcms).trans hnode
  have hrE := reachable_trans hr hreachE.toFrom
  have hF : Step cfg sE (advanceCommitS sE c g.length) := by
    refine .advanceCommit sE c g.length cfg.voterIds (by rw [hEc]) (hEc ▸ Nat.le_refl _) (hEc ▸ hlast)
      (all_voters_quorum cfg hnd hne) fun m hm => ⟨g.length, Nat.le_refl _, ?_⟩
    rw [hEc]
    by_cases hmc : m = c
    · subst hmc; exact hEa _ hack
    · exact (hEall m (hmem.mpr ⟨hmc, hm⟩)).2.2
  have hkg : k ≤ g.length := by have := ((inv_reachable hnd hrE).commit_ok c).1; rwa [hEc] at this
  have hFc : (advanceCommitS sE c g.length).nodes c = { term := T, role := .leader, log := g, commit := g.length } := by
    simp [advanceCommitS, hEc, Nat.max_eq_right hkg]
  have hFo : ∀ j, j ≠ c → (advanceCommitS sE c g.length).nodes j = sE.nodes j := fun j hj => setNode_other _ _ hj
  obtain ⟨sG, hreachG, hGall, hGfr⟩ := heartbeat_all hnd c T g (cfg.voterIds.erase c) _ (.step hrE hF) (hnd.erase c) hcms
    (by rw [hFc]) (by rw [hFc]) (by rw [hFc]) (by rw [hFc])
    (fun m h => hFo m (hmem.mp h).1 ▸ ⟨(hEall m h).1, Nat.le_of_eq (hEall m h).2.1⟩)
  have hGc := (hGfr c hcms).trans hFc
  refine ⟨sG, (hreachE.trans (.one hF)).trans hreachG, by rw [hGc], fun v hv => ?_⟩
  by_cases hvc : v = c
  · subst hvc; rw [hGc]; exact ⟨rfl, rfl, rfl⟩
  · obtain ⟨a1, a2, a3, _⟩ := hGall v (hmem.mpr ⟨hvc, hv⟩)
    exact ⟨a1, a2, a3⟩

/-- **No reachable state is a dead end** (`C15_convergence_within_linearly_many_steps`). -/
theorem progress_possible_in {cfg : Config} (hnd : cfg.voterIds.Nodup) (hne : cfg.voterIds ≠ []) {s : AState}
    (hr : Reachable cfg s) :
    ∃ s' l T k, k ≤ 5 * cfg.voterIds.length + 4 ∧ ReachableIn cfg s k s' ∧ cfg.isVoter l = true ∧ (s'.nodes l).role = .leader ∧ (s'.nodes l).term = T ∧
      (∀ v, cfg.isVoter v = true → (s.nodes v).term < T) ∧
      (s'.nodes l).log = (s.nodes l).log ++ [⟨T, 0⟩] ∧
      (∀ v, cfg.isVoter v = true → (s'.nodes v).log = (s'.nodes l).log ∧
        (s'.nodes v).commit = (s'.nodes l).log.length ∧ (s'.nodes v).term = T) := by
  have hinv := inv_reachable hnd hr
  obtain ⟨c, hc, hmax⟩ := exists_most_upToDate (fun v => (s.nodes v).log) cfg.voterIds hne
  obtain ⟨T0, hT0⟩ := exists_bound (fun v => (s.nodes v).term) cfg.voterIds
  obtain ⟨sD, hreachD, hDc, hDack, hDm⟩ := elect_upToDate hnd hne hr hc hT0 hmax
  obtain ⟨sG, hreachG, hGrole, hG⟩ := leader_converges hnd hne (reachable_trans hr hreachD.toFrom) hc hDc (by simp) (lastTerm_append _ _)
    (by simpa using hDack)
    (fun m h => by
      obtain ⟨h1, h2⟩ := hDm m h
      refine ⟨Nat.le_of_eq h1, fun e he => ?_⟩
      have := Nat.le_trans ((hinv.log_shape m).1 e (h2 ▸ he)) (hT0 m (List.mem_of_mem_erase h))
      exact Nat.lt_succ_of_le (Nat.le_succ_of_le this))
  have hlen : (cfg.voterIds.erase c).length ≤ cfg.voterIds.length := List.length_erase_le
  obtain ⟨hGlog, hGcom, hGterm⟩ := hG c hc
  refine ⟨sG, c, T0 + 2, _, by omega, hreachD.trans hreachG, (cfg.isVoter_iff_mem c).mpr hc, hGrole, hGterm,
    fun v hv => Nat.lt_succ_of_le (Nat.le_succ_of_le (hT0 v ((cfg.isVoter_iff_mem v).mp hv))), hGlog, fun v hv => ?_⟩
  obtain ⟨a1, a2, a3⟩ := hG v ((cfg.isVoter_iff_mem v).mp hv)
  exact ⟨a1.trans hGlog.symm, by rw [a2, hGlog], a3⟩

/-- without the count: the form the property files use -/
theorem progress_possible {cfg : Config} (hnd : cfg.voterIds.Nodup) (hne : cfg.voterIds ≠ []) {s : AState}
    (hr : Reachable cfg s) :
    ∃ s' l T, ReachableFrom cfg s s' ∧ cfg.isVoter l = true ∧ (s'.nodes l).role = .leader ∧ (s'.nodes l).term = T ∧
      (∀ v, cfg.isVoter v = true → (s.nodes v).term < T) ∧
      (s'.nodes l).log = (s.nodes l).log ++ [⟨T, 0⟩] ∧
      (∀ v, cfg.isVoter v = true → (s'.nodes v).log = (s'.nodes l).log ∧
        (s'.nodes v).commit = (s'.nodes l).log.length ∧ (s'.nodes v).term = T) := by
  obtain ⟨s', l, T, k, _, hk, rest⟩ := progress_possible_in hnd hne hr
  exact ⟨s', l, T, hk.toFrom, rest⟩

end Repl
end Raft
