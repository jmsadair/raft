/-
  Proofs/CodecCfg.lean — `Configuration` (two proto maps and an index): the round trips of the two
  kinds of map entry, and the map a decoder builds from entries in wire order.
-/
import RaftVerif.Proofs.CodecAE
namespace Raft.Codec
open Raft.Bytes

/-- 2^62 for ids and addresses: a map entry travels as a bytes field of at most 40 + key + value bytes,
    and that length must stay below 2^64. -/
def WCfg.Valid (c : WCfg) : Prop :=
  c.index < 2 ^ 64 ∧ (∀ kv ∈ c.members, kv.1.length < 2 ^ 62 ∧ kv.2.length < 2 ^ 62) ∧ (∀ kv ∈ c.voters, kv.1.length < 2 ^ 62)

theorem member_roundtrip (kv : Bytes × Bytes) (h : kv.1.length < 2 ^ 62 ∧ kv.2.length < 2 ^ 62) :
    decodeMember (encodeFields [.bytes 1 kv.1, .bytes 2 kv.2]) = some kv := by
  have hv : ∀ f ∈ [Field.bytes 1 kv.1, Field.bytes 2 kv.2], f.Valid :=
    List.forall_mem_cons.mpr ⟨⟨by decide, by omega⟩, List.forall_mem_singleton.mpr ⟨by decide, by omega⟩⟩
  rw [decodeMember, parseMessage_encode _ hv]
  rfl

theorem voter_roundtrip (kv : Bytes × Bool) (h : kv.1.length < 2 ^ 62) :
    decodeVoter (encodeFields [.bytes 1 kv.1, .varint 2 (if kv.2 then 1 else 0)]) = some kv := by
  have hv : ∀ f ∈ [Field.bytes 1 kv.1, Field.varint 2 (if kv.2 then 1 else 0)], f.Valid :=
    List.forall_mem_cons.mpr ⟨⟨by decide, by omega⟩, List.forall_mem_singleton.mpr ⟨by decide, flag_lt _⟩⟩
  rw [decodeVoter, parseMessage_encode _ hv]
  simp [getBytes, getVarint]

/-- the map a decoder builds from entries in wire order: for distinct keys, every key maps to
    its value, whatever the order -/
theorem lookupLast_of_nodup {α : Type} (l : List (Bytes × α)) (hn : (l.map (·.1)).Nodup) (kv : Bytes × α) (h : kv ∈ l) :
    lookupLast l kv.1 = some kv.2 := by
  obtain ⟨l1, l2, rfl⟩ := List.append_of_mem h
  rw [lookupLast, List.foldl_append, List.foldl_cons, if_pos rfl]
  have h2 : ∀ y ∈ l2, y.1 ≠ kv.1 := fun y hy e => by
    rw [List.map_append, List.map_cons] at hn
    exact (List.nodup_cons.mp (List.nodup_append.mp hn).2.1).1 (e ▸ List.mem_map_of_mem hy)
  clear hn h
  induction l2 with
  | nil => rfl
  | cons y ys ih =>
    obtain ⟨hy, hys⟩ := List.forall_mem_cons.mp h2
    rw [List.foldl_cons, if_neg hy]
    exact ih hys

end Raft.Codec
