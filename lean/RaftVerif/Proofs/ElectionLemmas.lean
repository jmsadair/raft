/-
  Proofs/ElectionLemmas.lean — the election side of a node, analysed once: the election loop as three equations
  (idle, a round of prevotes, a round of votes; a sole voter wins at once), the vote request a goroutine builds
  and what its reply does.
-/
import RaftVerif.Proofs.LeaderSections
namespace Raft
namespace Node

@[simp] theorem tryApplyReadOnly_fields (n : Node) (now seq : Nat) :
    (n.tryApplyReadOnly now seq).1.term = n.term ∧ (n.tryApplyReadOnly now seq).1.votedFor = n.votedFor ∧
    (n.tryApplyReadOnly now seq).1.role = n.role ∧ (n.tryApplyReadOnly now seq).1.id = n.id ∧
    (n.tryApplyReadOnly now seq).1.config = n.config ∧ (n.tryApplyReadOnly now seq).1.rvRounds = n.rvRounds ∧
    (n.tryApplyReadOnly now seq).1.nextRound = n.nextRound ∧ (n.tryApplyReadOnly now seq).1.log = n.log :=
  ⟨rfl, rfl, rfl, rfl, rfl, rfl, rfl, rfl⟩

theorem _root_.Raft.Config.not_single_of_two (c : Config) (id : Nat) (h : 2 ≤ c.voters) : c.isSingle id = false := by
  simp only [Config.isSingle, Bool.and_eq_false_iff, beq_eq_false_iff_ne]
  exact .inl (by omega)

theorem sendRVToPeers_multi {n : Node} (now : Nat) (h : n.config.isSingle n.id = false) :
    n.sendRVToPeers now =
      ({ n with rvRounds := (n.nextRound, 1) :: n.rvRounds, nextRound := n.nextRound + 1 },
       (n.config.voterIds.filter (· ≠ n.id)).map fun i => .spawnRV i (decide (n.role = .precandidate))) := by
  unfold sendRVToPeers; rw [h]; rfl

/-- The single-server path skips the vote round (and, from a pre-candidate, the candidate state). -/
theorem sendRVToPeers_single {n : Node} (now : Nat) (h : n.config.isSingle n.id = true) :
    n.sendRVToPeers now =
      let r1 := if n.role ≠ .candidate then n.becomeCandidate else (n, [])
      ((r1.1.becomeLeader now).1, r1.2 ++ (r1.1.becomeLeader now).2) := by
  unfold sendRVToPeers; rw [if_pos h]

/-- The guard under which an iteration of the election loop does nothing. -/
abbrev Idle (n : Node) (now : Nat) : Prop :=
  n.role = .leader ∨ n.role = .shutdown ∨ n.config.isVoter n.id = false ∨ n.contactFresh now = true

theorem election_idle {n : Node} {now : Nat} (h : n.Idle now) : n.election now = (n, []) := if_pos h

theorem election_prevote {n : Node} {now : Nat} (h : ¬ n.Idle now)
    (hp : ¬ (n.role = .candidate ∧ n.prevoteWon = true)) :
    n.election now = ({ n with role := .precandidate } : Node).sendRVToPeers now := by
  -- the first step of the loop body leaves a pre-candidate: it makes one of a follower and of a candidate
  -- without a won prevote, and no other role is left
  have h1 : (if n.role = .follower ∨ (n.role = .candidate ∧ n.prevoteWon = false)
      then { n with role := .precandidate } else n) = { n with role := .precandidate } := by
    by_cases hpre : n.role = .follower ∨ (n.role = .candidate ∧ n.prevoteWon = false)
    · exact if_pos hpre
    · have hr : n.role = .precandidate := by
        cases hr : n.role with
        | follower => exact absurd (.inl hr) hpre
        | candidate => exact absurd (.inr ⟨hr, eq_false_of_ne_true fun hw => hp ⟨hr, hw⟩⟩) hpre
        | precandidate => rfl
        | leader => exact absurd (.inl hr) h
        | shutdown => exact absurd (.inr (.inl hr)) h
      rw [if_neg hpre]
      exact hr ▸ rfl
  unfold election
  rw [if_neg h, h1]
  rfl

theorem election_real {n : Node} {now : Nat} (h : ¬ n.Idle now)
    (hc : n.role = .candidate) (hw : n.prevoteWon = true) :
    n.election now =
      ((({ n with prevoteWon := false } : Node).becomeCandidate.1.sendRVToPeers now).1,
       .setState (n.term + 1) n.id :: (({ n with prevoteWon := false } : Node).becomeCandidate.1.sendRVToPeers now).2) := by
  unfold election
  rw [if_neg h]
  cases n; cases hc; cases hw; rfl

/-- Whatever state a sole voter campaigns from (follower, pre-candidate, candidate with or without a won
    prevote), one iteration of the election loop makes it leader of the next term. -/
theorem sole_voter_wins (n : Node) (now : Nat) (hs : n.config.isSingle n.id = true) (hi : ¬ n.Idle now) :
    (n.election now).1.role = .leader ∧ (n.election now).1.term = n.term + 1 ∧ (n.election now).1.votedFor = n.id := by
  by_cases hc : n.role = .candidate ∧ n.prevoteWon = true
  · rw [election_real hi hc.1 hc.2,
      sendRVToPeers_single (n := ({ n with prevoteWon := false } : Node).becomeCandidate.1) now hs]
    obtain ⟨k, h, -⟩ := becomeLeader_node (({ n with prevoteWon := false } : Node).becomeCandidate).1 now
    rw [if_neg (by exact fun h => h rfl), h]
    exact ⟨rfl, rfl, rfl⟩
  · rw [election_prevote hi hc, sendRVToPeers_single (n := { n with role := .precandidate }) now hs]
    obtain ⟨k, h, -⟩ := becomeLeader_node (({ n with role := .precandidate } : Node).becomeCandidate).1 now
    rw [if_pos (by exact nofun), h]
    exact ⟨rfl, rfl, rfl⟩

/-- The outcomes of one election-loop iteration in a cluster with at least two voters: nothing, or a new round
    of prevotes (`pv`, term and vote kept) or of votes (the node has voted for itself in the next term). -/
inductive ElectionOutcome (n : Node) (n' : Node) (eff : List Effect) : Prop
  | idle : n' = n → eff = [] → ElectionOutcome n n' eff
  | round (pv : Bool) (id_eq : n'.id = n.id) (config_eq : n'.config = n.config) (not_leader : n'.role ≠ .leader)
      (rounds : n'.rvRounds = (n.nextRound, 1) :: n.rvRounds) (nextRound : n'.nextRound = n.nextRound + 1)
      (term_le : n.term ≤ n'.term) (vote_keep : n'.term = n.term → n'.votedFor = n.votedFor)
      (vote_self : pv = false → n'.votedFor = n.id)
      (spawns : ∀ peer pv', Effect.spawnRV peer pv' ∈ eff → pv' = pv ∧ peer ≠ n.id)
      (voter : n.config.isVoter n.id = true) : ElectionOutcome n n' eff

theorem election_outcome (n : Node) (now : Nat) (h2 : 2 ≤ n.config.voters) :
    ElectionOutcome n (n.election now).1 (n.election now).2 := by
  have hs := n.config.not_single_of_two n.id h2
  by_cases hidle : n.Idle now
  · rw [election_idle hidle]; exact .idle rfl rfl
  have hv : n.config.isVoter n.id = true := eq_true_of_ne_false fun hh => hidle (.inr (.inr (.inl hh)))
  have peers : ∀ {pv : Bool} (peer pv'),
      Effect.spawnRV peer pv' ∈ (n.config.voterIds.filter (· ≠ n.id)).map (fun j => Effect.spawnRV j pv) →
      pv' = pv ∧ peer ≠ n.id := fun peer pv' hm => by
    obtain ⟨x, hx, he⟩ := List.mem_map.mp hm
    cases he
    exact ⟨rfl, of_decide_eq_true (List.mem_filter.mp hx).2⟩
  by_cases hc : n.role = .candidate ∧ n.prevoteWon = true
  · rw [election_real hidle hc.1 hc.2, sendRVToPeers_multi (n := ({ n with prevoteWon := false } : Node).becomeCandidate.1) now hs]
    exact .round (pv := false) rfl rfl nofun rfl rfl (term_le := Nat.le_succ _)
      (vote_keep := fun h => absurd h (Nat.succ_ne_self _)) (vote_self := fun _ => rfl)
      (spawns := fun _ _ hm => (List.mem_cons.mp hm).elim nofun (peers _ _)) hv
  · rw [election_prevote hidle hc, sendRVToPeers_multi (n := { n with role := .precandidate }) now hs]
    exact .round (pv := true) rfl rfl nofun rfl rfl (term_le := Nat.le_refl _) (vote_keep := fun _ => rfl)
      (vote_self := nofun) (spawns := peers) hv

theorem prepareRV_some {n : Node} {peer : Nat} {pv : Bool} {q : RVReq} (h : n.prepareRV peer pv = some q) :
    q.candidate = n.id ∧ q.prevote = pv ∧ q.term = (if pv then n.term + 1 else n.term) ∧
    n.config.isVoter peer = true ∧ n.config.isVoter n.id = true := by
  unfold prepareRV at h
  by_cases hv : n.config.isVoter peer = false ∨ n.config.isVoter n.id = false
  · rw [if_pos hv] at h; nomatch h
  · rw [if_neg hv] at h
    cases h
    exact ⟨rfl, rfl, rfl, eq_true_of_ne_false fun h => hv (.inl h), eq_true_of_ne_false fun h => hv (.inr h)⟩

theorem bumpRound_mem {rs : List (Nat × Nat)} {id : Nat} {x : Nat × Nat} (h : x ∈ bumpRound rs id) :
    (x.1 = id ∧ ∃ c, (id, c) ∈ rs ∧ x.2 = c + 1) ∨ (x.1 ≠ id ∧ x ∈ rs) := by
  unfold bumpRound at h
  obtain ⟨y, hy, rfl⟩ := List.mem_map.mp h
  by_cases hid : y.1 = id
  · rw [if_pos hid]; exact .inl ⟨hid, y.2, hid ▸ hy, rfl⟩
  · rw [if_neg hid]; exact .inr ⟨hid, hy⟩

theorem roundCount_mem_or_zero (rs : List (Nat × Nat)) (id : Nat) :
    roundCount rs id = 0 ∨ (id, roundCount rs id) ∈ rs := by
  unfold roundCount
  cases h : rs.find? (·.1 = id) with
  | none => exact .inl rfl
  | some r =>
    have hid : r.1 = id := by simpa using List.find?_some h
    exact .inr (hid ▸ List.mem_of_find?_eq_some h)

def voteCount (n : Node) (round : Nat) (r : RVResp) : Node :=
  if r.granted then { n with rvRounds := bumpRound n.rvRounds round } else n

/-- What the count decides: a pre-candidate with a quorum becomes a candidate; a candidate with a
    quorum of real votes becomes leader. -/
def voteDecide (n1 : Node) (now round : Nat) (q : RVReq) : Node × List Effect :=
  let votes := roundCount n1.rvRounds round
  let r2 : Node × List Effect :=
    if n1.config.hasQuorum votes ∧ n1.role = .precandidate
    then ({ n1 with role := .candidate, prevoteWon := true }, [Effect.signalElection]) else (n1, [])
  if !q.prevote ∧ r2.1.config.hasQuorum votes ∧ r2.1.role = .candidate then
    let r3 := r2.1.becomeLeader now
    (r3.1, r2.2 ++ r3.2)
  else r2

theorem onVoteReply_eq (n : Node) (now peer round : Nat) (q : RVReq) (r : RVResp) :
    n.onVoteReply now peer round q (some r) =
      if n.role = .shutdown then (n, []) else
      if n.term > q.term then (n, []) else
      if r.term > q.term then (n.voteCount round r).becomeFollower now peer r.term
      else voteDecide (n.voteCount round r) now round q := rfl

theorem voteCount_node (n : Node) (round : Nat) (r : RVResp) : ∃ rs,
    n.voteCount round r = { n with rvRounds := rs } ∧
    (rs = n.rvRounds ∨ (r.granted = true ∧ rs = bumpRound n.rvRounds round)) := by
  unfold voteCount
  cases hg : r.granted
  · exact ⟨_, rfl, .inl rfl⟩
  · exact ⟨_, rfl, .inr ⟨rfl, rfl⟩⟩

/-- The count changes role and prevote flag only, never to `leader`; or the node so changed becomes leader,
    which takes a real vote request and a quorum in the round. -/
theorem voteDecide_cases (m : Node) (now round : Nat) (q : RVReq) : ∃ ρ w, (ρ = .leader → m.role = .leader) ∧
    ((voteDecide m now round q).1 = { m with role := ρ, prevoteWon := w } ∨
     (q.prevote = false ∧ m.config.hasQuorum (roundCount m.rvRounds round) = true ∧
      (voteDecide m now round q).1 = (({ m with role := ρ, prevoteWon := w } : Node).becomeLeader now).1)) := by
  unfold voteDecide
  extract_lets votes r2
  obtain ⟨ρ, w, hρ, h2⟩ : ∃ ρ w, (ρ = .leader → m.role = .leader) ∧ r2.1 = { m with role := ρ, prevoteWon := w } := by
    by_cases hq : m.config.hasQuorum votes = true ∧ m.role = .precandidate
    · rw [show r2 = _ from if_pos hq]; exact ⟨.candidate, true, nofun, rfl⟩
    · rw [show r2 = _ from if_neg hq]; exact ⟨m.role, m.prevoteWon, fun h => h, rfl⟩
  refine ⟨ρ, w, hρ, ?_⟩
  by_cases hl : (!q.prevote) = true ∧ r2.1.config.hasQuorum votes = true ∧ r2.1.role = .candidate
  · rw [if_pos hl, ← h2]
    exact .inr ⟨(Bool.not_eq_true' _).mp hl.1, (congrArg (·.config.hasQuorum votes) h2).symm.trans hl.2.1, rfl⟩
  · rw [if_neg hl]; exact .inl h2

/-- Everything `onVoteReply` can do, as far as elections are concerned. -/
structure VoteReplySpec (n : Node) (q : RVReq) (round : Nat) (r : RVResp) (n' : Node) : Prop where
  id_eq : n'.id = n.id
  config_eq : n'.config = n.config
  term_le : n.term ≤ n'.term
  vote_keep : n'.term = n.term → n'.votedFor = n.votedFor
  vote_reset : n'.term ≠ n.term → n'.votedFor = 0
  rounds : n'.rvRounds = n.rvRounds ∨ (r.granted = true ∧ n'.rvRounds = bumpRound n.rvRounds round)
  nextRound_le : n.nextRound ≤ n'.nextRound
  new_leader : n'.role = .leader → n.role ≠ .leader →
    q.prevote = false ∧ n.term ≤ q.term ∧ n'.term = n.term ∧
    n.config.hasQuorum (roundCount n'.rvRounds round) = true
  leader_term : n'.role = .leader → n'.term = n.term

theorem onVoteReply_spec (n : Node) (now peer round : Nat) (q : RVReq) (r : RVResp) :
    VoteReplySpec n q round r (n.onVoteReply now peer round q (some r)).1 := by
  have same : VoteReplySpec n q round r n :=
    ⟨rfl, rfl, Nat.le_refl _, fun _ => rfl, fun h => absurd rfl h, .inl rfl, Nat.le_refl _, fun h hn => absurd h hn, fun _ => rfl⟩
  rw [onVoteReply_eq]
  by_cases hsd : n.role = .shutdown
  · rw [if_pos hsd]; exact same
  by_cases hstale : n.term > q.term
  · rw [if_neg hsd, if_pos hstale]; exact same
  rw [if_neg hsd, if_neg hstale]
  obtain ⟨rs, hm, hrs⟩ := voteCount_node n round r
  rw [hm]
  by_cases hhigh : r.term > q.term
  · rw [if_pos hhigh]
    have hgt : r.term > n.term := Nat.lt_of_le_of_lt (Nat.le_of_not_lt hstale) hhigh
    exact ⟨rfl, rfl, Nat.le_of_lt hgt, fun h => absurd h (Nat.ne_of_gt hgt), fun _ => if_pos hgt, hrs, Nat.le_refl _,
      nofun, nofun⟩
  rw [if_neg hhigh]
  obtain ⟨ρ, w, hρ, h | ⟨hpv, hquo, h⟩⟩ := voteDecide_cases { n with rvRounds := rs } now round q
  · rw [h]
    exact ⟨rfl, rfl, Nat.le_refl _, fun _ => rfl, fun h => absurd rfl h, hrs, Nat.le_refl _,
      fun h hn => absurd (hρ h) hn, fun _ => rfl⟩
  · obtain ⟨k, hl, -⟩ := becomeLeader_node ({ n with rvRounds := rs, role := ρ, prevoteWon := w } : Node) now
    rw [h, hl]
    exact ⟨rfl, rfl, Nat.le_refl _, fun _ => rfl, fun h => absurd rfl h, hrs, Nat.le_succ _,
      fun _ _ => ⟨hpv, Nat.le_of_not_lt hstale, rfl, hquo⟩, fun _ => rfl⟩

end Node
end Raft
