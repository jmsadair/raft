/-
  Properties/C02.lean — election safety: at most one leader per term.

  Cluster model: Model/Cluster.lean (any number of nodes, a network that loses, delays,
  reorders and duplicates requests and replies, late replies after restarts, crashes at
  section boundaries with term and vote persisted, arbitrary interleaving with all other
  sections of every node, abstracted by `OtherStep`). Static configuration `cfg` with at
  least two voters, which may contain non-voters.
-/
import RaftVerif.Proofs.ElectionSafety
import RaftVerif.Proofs.AppendEntries
namespace Raft
namespace Cluster
open Node

/-- Initial states: every node knows the configuration, has not voted, leads nothing,
    has no vote round in flight; the history is empty. -/
structure Init (cfg : Config) (c : Cluster) : Prop where
  ids : ∀ i, (c.nodes i).id = i
  cfgs : ∀ i, (c.nodes i).config = cfg
  novote : ∀ i, (c.nodes i).votedFor = 0
  noleader : ∀ i, (c.nodes i).role ≠ .leader
  norounds : ∀ i, (c.nodes i).rvRounds = []
  requests : c.requests = []
  replies : c.replies = []
  granters : c.granters = []
  votes : c.votes = []
  leaders : c.leaders = []

theorem init_inv {cfg : Config} {c : Cluster} (h : Init cfg c) : Inv cfg c :=
  have empty : ∀ {α : Type} {l : List α}, l = [] → ∀ {x P}, x ∈ l → P := fun e _ _ hx => nomatch e ▸ hx
  { ids := h.ids
    cfgs := h.cfgs
    vote_nz := fun _ _ _ => empty h.votes
    vote_le := fun _ _ _ => empty h.votes
    vote_cur := fun _ _ _ => empty h.votes
    cur_vote := fun v hv => absurd (h.novote v) hv
    vote_uniq := fun _ _ _ _ => empty h.votes
    rq_cand := fun _ _ => empty h.requests
    rq_round := fun _ _ => empty h.requests
    rq_voter := fun _ _ => empty h.requests
    rq_term := fun _ _ => empty h.requests
    rq_self := fun _ _ => empty h.requests
    rq_same := fun _ _ _ _ => empty h.requests
    rp_req := fun _ _ _ => empty h.replies
    rp_vote := fun _ _ _ => empty h.replies
    gr_req := fun _ _ => empty h.granters
    gr_nodup := h.granters ▸ List.nodup_nil
    rd_lt := fun i _ _ => empty (h.norounds i)
    rd_cnt := fun i _ _ => empty (h.norounds i)
    ld_quorum := fun _ _ => empty h.leaders }

/-- **C02 (a): at most one node ever acts as leader in a term.** `leaders` receives an
    entry whenever a node enters the leader state, so "ever acts as leader" is covered,
    not only "is leader now". -/
theorem C02_one_leader_per_term {cfg : Config} (hc : CfgOK cfg) {init c : Cluster} (h0 : Init cfg init)
    (hr : Reachable init c) (t a b : Nat) (ha : (t, a) ∈ c.leaders) (hb : (t, b) ∈ c.leaders) : a = b :=
  election_safety (inv_reachable hc (init_inv h0) hr) t a b ha hb

def LeaderRecorded (c : Cluster) : Prop := ∀ i, (c.nodes i).role = .leader → ((c.nodes i).term, i) ∈ c.leaders

theorem leaderRecorded_step {c c' : Cluster} (h : LeaderRecorded c) (hs : Step c c') : LeaderRecorded c' := by
  obtain ⟨i, n', hn, _, hl⟩ := hs.nodes
  rw [LeaderRecorded, hn, hl]
  refine setNode_all (P := fun j a => a.role = .leader → (a.term, j) ∈ leaderDelta i (c.nodes i) n' ++ c.leaders)
    (fun hj => ?_) fun j hj => List.mem_append_right _ (h j hj)
  by_cases hold : (c.nodes i).role = .leader ∧ (c.nodes i).term = n'.term
  · exact List.mem_append_right _ (hold.2 ▸ h i hold.1)
  · exact List.mem_append_left _ (mem_leaderDelta.mpr ⟨rfl, hj, Decidable.not_and_iff_not_or_not.mp hold⟩)

theorem leaderRecorded_reachable {init c : Cluster} (h0 : LeaderRecorded init) (hr : Reachable init c) : LeaderRecorded c := by
  induction hr with
  | base => exact h0
  | step _ hs ih => exact leaderRecorded_step ih hs

/-- **C02 (b): no two distinct nodes ever report the leader state for the same term.** -/
theorem C02_status {cfg : Config} (hc : CfgOK cfg) {init c : Cluster} (h0 : Init cfg init) (hr : Reachable init c)
    (a b : Nat) (ha : (c.nodes a).role = .leader) (hb : (c.nodes b).role = .leader)
    (ht : (c.nodes a).term = (c.nodes b).term) : a = b := by
  have hrec := leaderRecorded_reachable (fun i hi => absurd hi (h0.noleader i)) hr
  exact C02_one_leader_per_term hc h0 hr (c.nodes b).term a b (ht ▸ hrec a ha) (hrec b hb)

/-- **C02 (c): all AppendEntries requests that carry a given term name the same leader.**
    Stated for the requests two nodes build in one reachable state. (For requests built in
    different states of one run one needs in addition that `leaders` only grows along a run,
    which `Step.nodes` shows but no theorem here states.) -/
theorem C02_requests_name_one_leader {cfg : Config} (hc : CfgOK cfg) {init c : Cluster} (h0 : Init cfg init)
    (hr : Reachable init c) (a b pa pb : Nat) (qa qb : AEReq)
    (ha : (c.nodes a).prepareAE pa = .request qa) (hb : (c.nodes b).prepareAE pb = .request qb)
    (ht : qa.term = qb.term) : qa.leaderId = qb.leaderId := by
  obtain ⟨a1, a2, a3⟩ := prepareAE_names_leader ha
  obtain ⟨b1, b2, b3⟩ := prepareAE_names_leader hb
  have hi := inv_reachable hc (init_inv h0) hr
  have : a = b := C02_status hc h0 hr a b a1 b1 (a2.symm.trans (ht.trans b2))
  rw [a3, b3, hi.ids a, hi.ids b, this]

/-- The abstract `other` step is what a real section does: the replication handler, in a cluster
    with static membership (the node's committed configuration is its configuration), is an `OtherStep`. -/
theorem appendEntries_otherStep {n n' : Node} {now : Nat} {q : AEReq} {r : AEResp} {eff : List Effect}
    (h : appendEntries n now q = some (n', r, eff)) (hs : n.committed = some n.config) : OtherStep n n' := by
  have hf := aeEnter_follows n now q
  have base : n.term ≤ q.term → OtherStep n (aeEnter n now q).1 := fun hle => by
    obtain ⟨et, ev⟩ := aeEnter_term_vote n now q hle
    refine ⟨hf.id, hf.config, hf.term_le, fun hh => ?_, fun hh => ?_, hf.leader, hf.rvRounds, Nat.le_of_eq hf.nextRound.symm⟩
    · rw [ev, if_neg (Nat.not_lt_of_le (Nat.le_of_eq (et ▸ hh)))]
    · rw [ev, if_pos (Nat.lt_of_le_of_ne hle (et ▸ hh).symm)]
  cases appendEntries_cases h with
  | stale => exact ⟨rfl, rfl, Nat.le_refl _, fun _ => rfl, fun hh => absurd rfl hh, fun hh => ⟨hh, rfl⟩, rfl, Nat.le_refl _⟩
  | reject hle | unreadable hle => exact base hle
  | accept hle =>
    have base := base hle
    -- the accepting part makes no leader and, the committed configuration being in force, keeps the configuration
    obtain ⟨k, hk, hr, hc⟩ := aeAccept_node (aeEnter n now q).1 now q
    rw [hk]
    have hcf := hc (hf.committed.trans (hs.trans (congrArg some hf.config.symm)))
    exact ⟨base.id_eq, hcf.trans base.config_eq, base.term_le, base.vote_keep, base.vote_reset,
      fun hh => base.no_new_leader (hr hh), base.rounds_eq, base.nextRound_le⟩

/-! The side conditions can be met: a configuration of three voters and a non-voter is `CfgOK`.
    (No run of the cluster model that elects a leader in it is exhibited.) -/
def exCfg : Config := ⟨1, [(1, true), (2, true), (3, true), (4, false)]⟩
example : CfgOK exCfg := ⟨by decide, by decide, by decide⟩

end Cluster
end Raft
