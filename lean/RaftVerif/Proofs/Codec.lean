/-
  Proofs/Codec.lean — the byte-level round trips (varint, one field, a field list, the 4-byte length
  prefix) and the block lemmas through which the getters of every message are evaluated.
-/
import RaftVerif.Model.Codec
namespace Raft.Bytes

theorem encodeVarint_ne_nil (n : Nat) : encodeVarint n ≠ [] := by
  unfold encodeVarint encodeVarintAux; split <;> simp

theorem encodeVarintAux_length (fuel n : Nat) : (encodeVarintAux fuel n).length ≤ fuel + 1 := by
  induction fuel generalizing n with
  | zero => simp [encodeVarintAux]
  | succ fuel ih =>
    unfold encodeVarintAux
    split
    · simp
    · have := ih (n / 128)
      simp only [List.length_cons]; omega

theorem encodeVarint_length (n : Nat) : (encodeVarint n).length ≤ 10 := encodeVarintAux_length 9 n

theorem decodeVarintAux_encode (fuel n : Nat) (rest : Bytes) (h : n < 128 ^ (fuel + 1)) :
    decodeVarintAux (fuel + 1) (encodeVarintAux fuel n ++ rest) = some (n, rest) := by
  induction fuel generalizing n with
  | zero =>
    have hn : n < 128 := h
    simp [encodeVarintAux, decodeVarintAux, Nat.mod_eq_of_lt hn, hn]
  | succ fuel ih =>
    unfold encodeVarintAux
    split
    · simp [decodeVarintAux, *]
    · have hdiv : n / 128 < 128 ^ (fuel + 1) := Nat.div_lt_of_lt_mul (by rwa [Nat.pow_succ'] at h)
      rw [List.cons_append, decodeVarintAux, if_neg (Nat.not_lt.mpr (Nat.le_add_left _ _)), ih _ hdiv]
      simp only [Nat.add_sub_cancel, Nat.mod_add_div]

theorem decodeVarint_encode (n : Nat) (rest : Bytes) (h : n < 2 ^ 64) :
    decodeVarint (encodeVarint n ++ rest) = some (n, rest) :=
  decodeVarintAux_encode 9 n rest (Nat.lt_of_lt_of_le h (by decide))

/-- Bounds under which a field survives the codec: tag and values fit 64 bits. -/
def Field.Valid : Field → Prop
  | .varint num v => num * 8 < 2 ^ 64 ∧ v < 2 ^ 64
  | .bytes num v => num * 8 + 2 < 2 ^ 64 ∧ v.length < 2 ^ 64

theorem encodeField_ne_nil (f : Field) : encodeField f ≠ [] := by
  cases f <;> simp [encodeField, tagVarint, tagBytes, encodeVarint_ne_nil]

theorem parseFields_encodeField (f : Field) (hf : f.Valid) (fuel : Nat) (rest : Bytes) :
    parseFields (fuel + 1) (encodeField f ++ rest) = (parseFields fuel rest).map (f :: ·) := by
  have hne : encodeField f ++ rest ≠ [] := by simp [encodeField_ne_nil]
  rw [parseFields, if_neg hne]
  cases f with
  | varint num v =>
    simp only [encodeField, tagVarint, List.append_assoc, decodeVarint_encode _ _ hf.1, decodeVarint_encode _ _ hf.2,
      Nat.mul_mod_left, if_true, Nat.mul_div_cancel _ (by decide : 0 < 8)]
    cases parseFields fuel rest <;> rfl
  | bytes num v =>
    have m2 : (num * 8 + 2) % 8 = 2 := Nat.mul_add_mod_of_lt (by decide)
    have d2 : (num * 8 + 2) / 8 = num := by rw [Nat.mul_comm, Nat.mul_add_div (by decide)]; rfl
    simp only [encodeField, tagBytes, List.append_assoc, decodeVarint_encode _ _ hf.1, decodeVarint_encode _ _ hf.2, m2, d2,
      List.length_append, Nat.not_lt.mpr (Nat.le_add_right _ _), List.take_left, List.drop_left]
    cases parseFields fuel rest <;> rfl

theorem encodeFields_cons (f : Field) (fs : List Field) : encodeFields (f :: fs) = encodeField f ++ encodeFields fs := rfl

theorem encodeFields_append (a b : List Field) : encodeFields (a ++ b) = encodeFields a ++ encodeFields b := by
  simp [encodeFields]

theorem encodeFields_nil : encodeFields [] = [] := rfl

theorem encodeFields_single (f : Field) : encodeFields [f] = encodeField f := by simp [encodeFields]

theorem parseFields_encode (fs : List Field) (fuel : Nat) (hv : ∀ f ∈ fs, f.Valid) (hf : fs.length < fuel) :
    parseFields fuel (encodeFields fs) = some fs := by
  induction fuel generalizing fs with
  | zero => exact absurd hf (Nat.not_lt_zero _)
  | succ fuel ih =>
    cases fs with
    | nil => rfl
    | cons f fs =>
      obtain ⟨hv1, hvs⟩ := List.forall_mem_cons.mp hv
      rw [encodeFields_cons, parseFields_encodeField f hv1, ih fs hvs (Nat.lt_of_succ_lt_succ hf)]
      rfl

/-- why `input length + 1` is fuel enough for the parsers: every record takes at least one byte -/
theorem length_le_flatten_map {α β : Type} (f : α → List β) (hf : ∀ x, f x ≠ []) (l : List α) :
    l.length ≤ (l.map f).flatten.length := by
  induction l with
  | nil => exact Nat.zero_le _
  | cons x l ih =>
    have := List.length_pos_iff.mpr (hf x)
    simp only [List.map_cons, List.flatten_cons, List.length_append, List.length_cons]; omega

theorem parseMessage_encode (fs : List Field) (hv : ∀ f ∈ fs, f.Valid) :
    parseMessage (encodeFields fs) = some fs :=
  parseFields_encode fs _ hv (Nat.lt_succ_of_le (length_le_flatten_map _ encodeField_ne_nil fs))

theorem readBe32_be32 (n : Nat) (rest : Bytes) (h : n < 2 ^ 32) : readBe32 (be32 n ++ rest) = some (n, rest) := by
  -- successive division by 256 keeps the numerals small for `omega`
  have e1 : n / 65536 = n / 256 / 256 := by rw [Nat.div_div_eq_div_mul]
  have e2 : n / 16777216 = n / 256 / 256 / 256 := by rw [Nat.div_div_eq_div_mul, Nat.div_div_eq_div_mul]
  simp only [be32, List.cons_append, List.nil_append, readBe32, Option.some.injEq, Prod.mk.injEq, and_true, e1, e2]
  omega

end Raft.Bytes

namespace Raft.Codec
open Raft.Bytes

/-! ### Messages as concatenations of blocks

  Every message of Model/Codec.lean is a concatenation of *blocks*, one per field number: `optV k v`,
  `optB k v`, or a repeated field `xs.map fun x => .bytes k (g x)`. The getters fold over the list with
  an accumulator ("last one wins"), so `List.foldl_append` reduces a getter on a message to the action
  of each block on the accumulator; the lemmas below give that action. With literal field numbers
  `simp` decides the `k = num` tests, and a round trip is: bounds → `parseMessage_encode` → blocks. -/

def vStep (num : Nat) (acc : Nat) (f : Field) : Nat :=
  match f with
  | .varint n v => if n = num then v else acc
  | _ => acc

def bStep (num : Nat) (acc : Bytes) (f : Field) : Bytes :=
  match f with
  | .bytes n v => if n = num then v else acc
  | _ => acc

theorem getVarint_eq (fs : List Field) (num : Nat) : getVarint fs num = fs.foldl (vStep num) 0 := rfl
theorem getBytes_eq (fs : List Field) (num : Nat) : getBytes fs num = fs.foldl (bStep num) [] := rfl

/-- its own block, met with the default still in the accumulator (field numbers are distinct) -/
@[simp] theorem vStep_optV_self (k v : Nat) : (optV k v).foldl (vStep k) 0 = v := by
  unfold optV; split <;> simp_all [vStep]

@[simp] theorem vStep_optV_ne {k num : Nat} (h : k ≠ num) (v acc : Nat) : (optV k v).foldl (vStep num) acc = acc := by
  unfold optV; split <;> simp [vStep, h]

@[simp] theorem vStep_optB (num k acc : Nat) (v : Bytes) : (optB k v).foldl (vStep num) acc = acc := by
  unfold optB; split <;> simp [vStep]

@[simp] theorem bStep_optB_self (k : Nat) (v : Bytes) : (optB k v).foldl (bStep k) [] = v := by
  unfold optB; split <;> simp_all [bStep]

@[simp] theorem bStep_optB_ne {k num : Nat} (h : k ≠ num) (v acc : Bytes) : (optB k v).foldl (bStep num) acc = acc := by
  unfold optB; split <;> simp [bStep, h]

@[simp] theorem bStep_optV (num k v : Nat) (acc : Bytes) : (optV k v).foldl (bStep num) acc = acc := by
  unfold optV; split <;> simp [bStep]

/-- a `bool` field travels as the varint 0 or 1 -/
theorem flag_lt (b : Bool) : (if b = true then 1 else 0) < 2 ^ 64 := by cases b <;> decide
@[simp] theorem flag_ne_zero (b : Bool) : ((if b = true then 1 else 0) != 0) = b := by cases b <;> rfl

theorem optV_valid (num v : Nat) (hv : v < 2 ^ 64) (hn : num < 2 ^ 60 := by decide) : ∀ f ∈ optV num v, f.Valid := by
  unfold optV; split
  · simp
  · exact List.forall_mem_singleton.mpr ⟨by omega, hv⟩

theorem optB_valid (num : Nat) (v : Bytes) (hv : v.length < 2 ^ 64) (hn : num < 2 ^ 60 := by decide) :
    ∀ f ∈ optB num v, f.Valid := by
  unfold optB; split
  · simp
  · exact List.forall_mem_singleton.mpr ⟨by omega, hv⟩

/-! ### Repeated fields: the block `xs.map f` with `f x = .bytes k (g x)` -/

theorem getRepeated_append (a b : List Field) (num : Nat) :
    getRepeated (a ++ b) num = getRepeated a num ++ getRepeated b num := by
  simp [getRepeated, List.filterMap_append]

@[simp] theorem getRepeated_optV (k v num : Nat) : getRepeated (optV k v) num = [] := by
  unfold optV; split <;> rfl

@[simp] theorem getRepeated_optB_ne {k num : Nat} (h : k ≠ num) (v : Bytes) : getRepeated (optB k v) num = [] := by
  unfold optB; split
  · rfl
  · exact List.filterMap_cons_none (if_neg h)

-- A caller fixes `f`, `k`, `g` by passing `hf`: the `eq_def` of a named `f`; for a field list written with a
-- lambda, `hf : ∀ x, .bytes 6 (enc x) = .bytes 6 (enc x) := fun _ => rfl`.
variable {α : Type} {f : α → Field} {k : Nat} {g : α → Bytes}

theorem getRepeated_map (hf : ∀ x, f x = .bytes k (g x)) (xs : List α) (num : Nat) :
    getRepeated (xs.map f) num = if k = num then xs.map g else [] := by
  rw [getRepeated, List.filterMap_map]
  by_cases h : k = num <;> simp [Function.comp_def, hf, h]

theorem vStep_map (hf : ∀ x, f x = .bytes k (g x)) (xs : List α) (num acc : Nat) :
    (xs.map f).foldl (vStep num) acc = acc := by
  induction xs with
  | nil => rfl
  | cons x xs ih => simpa [hf x, vStep] using ih

theorem bStep_map_ne (hf : ∀ x, f x = .bytes k (g x)) {num : Nat} (h : k ≠ num) (xs : List α) (acc : Bytes) :
    (xs.map f).foldl (bStep num) acc = acc := by
  induction xs with
  | nil => rfl
  | cons x xs ih => simpa [hf x, bStep, h] using ih

theorem mapM_map_decode {enc : α → Bytes} {dec : Bytes → Option α} (xs : List α) (h : ∀ x ∈ xs, dec (enc x) = some x) :
    (xs.map enc).mapM dec = some xs := by
  induction xs with
  | nil => rfl
  | cons x xs ih =>
    obtain ⟨hx, hxs⟩ := List.forall_mem_cons.mp h
    simp [List.mapM_cons, hx, ih hxs]

end Raft.Codec
