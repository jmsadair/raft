/-
  Proofs/RequestVote.lean — the vote handler analysed once: `requestVote_eq` is the handler as a decision list
  (the only place where it is unfolded), `requestVote_cases` reads it from a completed run.
-/
import RaftVerif.Proofs.TermVote
namespace Raft
open Node

/-- The candidate's log is at least as up to date as `l`: `(lastTerm, lastIndex)` compared
    lexicographically. The handler tests the negation. -/
def RVReq.UpToDate (q : RVReq) (l : Log) : Prop :=
  l.lastTerm < q.lastTerm ∨ (l.lastTerm = q.lastTerm ∧ l.lastIndex ≤ q.lastIndex)

instance (q : RVReq) (l : Log) : Decidable (q.UpToDate l) := by unfold RVReq.UpToDate; infer_instance

theorem RVReq.not_upToDate {q : RVReq} {l : Log} :
    (q.lastTerm < l.lastTerm ∨ (q.lastTerm = l.lastTerm ∧ l.lastIndex > q.lastIndex)) ↔ ¬ q.UpToDate l := by
  unfold RVReq.UpToDate; omega

theorem rvEnter_prevote (n : Node) (now : Nat) {q : RVReq} (hp : q.prevote = true) : rvEnter n now q = (n, []) := by
  simp [rvEnter, hp]

theorem rvEnter_follows (n : Node) (now : Nat) (q : RVReq) : MaybeFollows n now q.term (rvEnter n now q) := by
  unfold rvEnter; split
  · rename_i h; exact .follow _ (Nat.le_of_lt h.2)
  · exact .stay

theorem rvEnter_term_vote (n : Node) (now : Nat) {q : RVReq} (hp : q.prevote = false) (hle : n.term ≤ q.term) :
    (rvEnter n now q).1.term = q.term ∧ (rvEnter n now q).1.votedFor = if q.term > n.term then 0 else n.votedFor := by
  simp only [rvEnter, hp, Bool.not_false, true_and]
  by_cases hgt : q.term > n.term
  · rw [if_pos hgt, if_pos hgt]; exact ⟨rfl, if_pos hgt⟩
  · rw [if_neg hgt, if_neg hgt]; exact ⟨Nat.le_antisymm hle (Nat.le_of_not_lt hgt), rfl⟩

/-- **The vote handler as a decision list**: the guards merged (sticky or stale; voted or behind), the log
    read where it is (`rvEnter` does not touch it), the results written out (a prevote leaves the voter
    as it was, a granted vote answers with the request's term). -/
theorem requestVote_eq (n : Node) (now : Nat) (q : RVReq) :
    requestVote n now q =
      if n.role = .shutdown then none
      else if (n.leaseValid now || n.contactFresh now) = true ∨ q.term < n.term then some (n, ⟨n.term, false⟩, [])
      else if (q.prevote = false ∧ (rvEnter n now q).1.votedFor ≠ 0 ∧ (rvEnter n now q).1.votedFor ≠ q.candidate) ∨
          ¬ q.UpToDate n.log then
        some ((rvEnter n now q).1, ⟨(rvEnter n now q).1.term, false⟩, (rvEnter n now q).2)
      else if q.prevote = true then some (n, ⟨n.term, true⟩, [])
      else some ({ (rvEnter n now q).1 with lastContact := now, votedFor := q.candidate }, ⟨q.term, true⟩,
                 (rvEnter n now q).2 ++ [.setState q.term q.candidate]) := by
  unfold requestVote
  by_cases hs : n.role = .shutdown
  · rw [if_pos hs, if_pos hs]
  rw [if_neg hs, if_neg hs]
  by_cases h1 : (n.leaseValid now || n.contactFresh now) = true
  · rw [if_pos h1, if_pos (.inl h1)]
  rw [if_neg h1]
  by_cases h2 : q.term < n.term
  · rw [if_pos h2, if_pos (.inr h2)]
  rw [if_neg h2, if_neg (not_or.mpr ⟨h1, h2⟩)]
  have hlog : (rvEnter n now q).1.log = n.log := (rvEnter_follows n now q).log
  -- (the definition tests `!q.prevote`, and the log after `rvEnter`)
  by_cases h3 : q.prevote = false ∧ (rvEnter n now q).1.votedFor ≠ 0 ∧ (rvEnter n now q).1.votedFor ≠ q.candidate
  · rw [if_pos (Bool.not_eq_true' _ ▸ h3), if_pos (.inl h3)]
  rw [if_neg (Bool.not_eq_true' _ ▸ h3)]
  by_cases h4 : ¬ q.UpToDate n.log
  · rw [if_pos (hlog ▸ RVReq.not_upToDate.mpr h4), if_pos (.inr h4)]
  rw [if_neg (hlog ▸ mt RVReq.not_upToDate.mp h4), if_neg (not_or.mpr ⟨h3, h4⟩)]
  cases hp : q.prevote with
  | true => rw [if_pos rfl, if_pos rfl, rvEnter_prevote n now hp]
  | false => rw [if_neg Bool.false_ne_true, if_neg Bool.false_ne_true, (rvEnter_term_vote n now hp (Nat.le_of_not_lt h2)).1]

/-- What a completed run of the vote handler returns: the four `some` branches of `requestVote_eq`. -/
inductive RVOutcome (n : Node) (now : Nat) (q : RVReq) : Node → RVResp → List Effect → Prop
  /-- in contact with a leader, or the request is stale: nothing is looked at, nothing changes -/
  | ignore : (n.leaseValid now || n.contactFresh now) = true ∨ q.term < n.term →
      RVOutcome n now q n ⟨n.term, false⟩ []
  /-- the vote of this term went elsewhere, or the candidate's log is behind -/
  | refuse : (n.leaseValid now || n.contactFresh now) = false → n.term ≤ q.term →
      (q.prevote = false ∧ (rvEnter n now q).1.votedFor ≠ 0 ∧ (rvEnter n now q).1.votedFor ≠ q.candidate) ∨ ¬ q.UpToDate n.log →
      RVOutcome n now q (rvEnter n now q).1 ⟨(rvEnter n now q).1.term, false⟩ (rvEnter n now q).2
  | prevote : (n.leaseValid now || n.contactFresh now) = false → n.term ≤ q.term → q.prevote = true → q.UpToDate n.log →
      RVOutcome n now q n ⟨n.term, true⟩ []
  | grant : (n.leaseValid now || n.contactFresh now) = false → n.term ≤ q.term → q.prevote = false → q.UpToDate n.log →
      (rvEnter n now q).1.votedFor = 0 ∨ (rvEnter n now q).1.votedFor = q.candidate →
      RVOutcome n now q { (rvEnter n now q).1 with lastContact := now, votedFor := q.candidate } ⟨q.term, true⟩
        ((rvEnter n now q).2 ++ [.setState q.term q.candidate])

theorem requestVote_cases {n n' : Node} {now : Nat} {q : RVReq} {r : RVResp} {eff : List Effect}
    (h : requestVote n now q = some (n', r, eff)) : RVOutcome n now q n' r eff := by
  rw [requestVote_eq] at h
  by_cases hs : n.role = .shutdown
  · rw [if_pos hs] at h; cases h
  rw [if_neg hs] at h
  by_cases h1 : (n.leaseValid now || n.contactFresh now) = true ∨ q.term < n.term
  · rw [if_pos h1] at h; cases h; exact .ignore h1
  rw [if_neg h1] at h
  have hc : (n.leaseValid now || n.contactFresh now) = false := Bool.eq_false_iff.mpr fun h => h1 (.inl h)
  have hle : n.term ≤ q.term := Nat.le_of_not_lt fun h => h1 (.inr h)
  by_cases h2 : (q.prevote = false ∧ (rvEnter n now q).1.votedFor ≠ 0 ∧ (rvEnter n now q).1.votedFor ≠ q.candidate) ∨
      ¬ q.UpToDate n.log
  · rw [if_pos h2] at h; cases h; exact .refuse hc hle h2
  rw [if_neg h2] at h
  have hu : q.UpToDate n.log := Classical.not_not.mp fun h => h2 (.inr h)
  cases hp : q.prevote with
  | true => rw [hp, if_pos rfl] at h; cases h; exact .prevote hc hle hp hu
  | false =>
    rw [hp, if_neg Bool.false_ne_true] at h; cases h
    exact .grant hc hle hp hu (Classical.byContradiction fun hn => h2 (.inl ⟨hp, not_or.mp hn⟩))

theorem requestVote_frame {n n' : Node} {now : Nat} {q : RVReq} {r : RVResp} {eff : List Effect}
    (h : requestVote n now q = some (n', r, eff)) :
    n'.id = n.id ∧ n'.config = n.config ∧ n'.rvRounds = n.rvRounds ∧ n'.nextRound = n.nextRound ∧
    (n'.role = .leader → n.role = .leader ∧ n'.term = n.term) := by
  have hf := rvEnter_follows n now q
  cases requestVote_cases h with
  | ignore | prevote => exact ⟨rfl, rfl, rfl, rfl, fun h => ⟨h, rfl⟩⟩
  | refuse | grant => exact ⟨hf.id, hf.config, hf.rvRounds, hf.nextRound, hf.leader⟩

theorem requestVote_tvRun {n n' : Node} {now : Nat} {q : RVReq} {r : RVResp} {eff : List Effect}
    (h : requestVote n now q = some (n', r, eff)) : TVRun (n.term, n.votedFor) eff (n'.term, n'.votedFor) := by
  have hf := (rvEnter_follows n now q).tvRun
  cases requestVote_cases h with
  | ignore | prevote => exact ⟨trivial, rfl⟩
  | refuse => exact hf
  | grant _ hle hp _ hv =>
    have ht := (rvEnter_term_vote n now hp hle).1
    -- the voted guard: no vote yet in this term, or the same candidate
    exact hf.append (.setState ⟨Nat.le_of_eq ht, fun _ => hv.symm.imp_left Eq.symm⟩
      ⟨trivial, congrArg (·, q.candidate) ht.symm⟩)

theorem requestVote_tv {n n' : Node} {now : Nat} {q : RVReq} {r : RVResp} {eff : List Effect}
    (h : requestVote n now q = some (n', r, eff)) : TVStep (n.term, n.votedFor) (n'.term, n'.votedFor) :=
  (requestVote_tvRun h).step

theorem requestVote_granted {n n' : Node} {now : Nat} {q : RVReq} {r : RVResp} {eff : List Effect}
    (h : requestVote n now q = some (n', r, eff)) (hg : r.granted = true) (hp : q.prevote = false) :
    n'.term = q.term ∧ n'.votedFor = q.candidate := by
  cases requestVote_cases h with
  | ignore | refuse => cases hg
  | prevote _ _ hp' => rw [hp] at hp'; cases hp'
  | grant _ hle => exact ⟨(rvEnter_term_vote n now hp hle).1, rfl⟩

theorem requestVote_upToDate {n n' : Node} {now : Nat} {q : RVReq} {r : RVResp} {eff : List Effect}
    (h : requestVote n now q = some (n', r, eff)) (hg : r.granted = true) : q.UpToDate n.log := by
  cases requestVote_cases h with
  | ignore | refuse => cases hg
  | prevote _ _ _ hu | grant _ _ _ hu => exact hu

theorem rvEnter_withLog (n : Node) (l' : Log) (now : Nat) (q : RVReq) :
    rvEnter { n with log := l' } now q = ({ (rvEnter n now q).1 with log := l' }, (rvEnter n now q).2) := by
  unfold rvEnter; split <;> rfl

/-- the vote handler reads the log only through its last index and last term -/
theorem requestVote_log_irrelevant (n : Node) (l' : Log) (now : Nat) (q : RVReq)
    (hi : l'.lastIndex = n.log.lastIndex) (ht : l'.lastTerm = n.log.lastTerm) :
    requestVote { n with log := l' } now q =
      (requestVote n now q).map (fun r => ({ r.1 with log := l' }, r.2.1, r.2.2)) := by
  have hu : q.UpToDate l' ↔ q.UpToDate n.log := by unfold RVReq.UpToDate; rw [hi, ht]
  -- the same decision list on both sides: no guard looks at the log except through `UpToDate`
  rw [requestVote_eq, requestVote_eq, rvEnter_withLog]
  simp only [apply_ite (Option.map _), Option.map_some, Option.map_none, hu, Node.leaseValid, Node.contactFresh]

end Raft
