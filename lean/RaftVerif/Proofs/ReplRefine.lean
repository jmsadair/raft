/-
  Proofs/ReplRefine.lean — the replication-layer model (Model/Repl.lean) against the node
  functions of Model/Handlers.lean / Model/Leader.lean, which E3/E4 compare with the code.

  An abstract log is the list of (term, payload) of the stored entries above the base; the
  abstract position of concrete index `i` is `i - base`. Under this abstraction the follower's merge
  loop and the whole accepting path compute `Repl.merge`, the previous-entry check is the model's
  guard, and a client submission and `becomeLeader` append one entry of the node's own term. The
  up-to-date guard of a granted vote is stated on the node's log, not on the abstraction.
-/
import RaftVerif.Model.Repl
import RaftVerif.Proofs.RequestVote
import RaftVerif.Proofs.AppendEntries
import RaftVerif.Proofs.LeaderSpecs
namespace Raft
namespace Repl
open Log

/-- abstraction of an entry; `enc` is any encoding of what the entry carries besides its term -/
def absE (enc : Entry → Nat) (e : Entry) : AEntry := ⟨e.term, enc e⟩
def absL (enc : Entry → Nat) (l : Log) : List AEntry := l.ents.map (absE enc)

/-- **The merge loop is `Repl.merge`.** -/
theorem mergeScan_refines (enc : Entry → Nat) (l : Log) (hw : l.WF) :
    ∀ (es : List Entry) (p : Nat), Contig p es → l.base ≤ p → p ≤ l.lastIndex →
      ∃ l1 tr app, mergeScan l es = .ok l1 tr app ∧ l1.base = l.base ∧
        (l1.ents ++ app).map (absE enc) = merge (absL enc l) (p - l.base) (es.map (absE enc)) := by
  intro es
  induction es with
  | nil =>
    intro p _ _ _
    exact ⟨l, none, [], rfl, rfl, congrArg _ (List.append_nil _)⟩
  | cons e es ih =>
    intro p ⟨hei, hces⟩ hb hp
    -- `e` belongs at position `p - l.base` of the stored entries (index arithmetic by lemmas here and below:
    -- `omega` is slow on truncated subtraction)
    have hidx : e.index - l.base - 1 = p - l.base := by rw [hei, Nat.sub_add_comm hb]; rfl
    rw [List.map_cons, merge]
    -- the three outcomes of one round of the loop are the three branches of `merge`
    rcases mergeScan_cons hw es hei hb hp with ⟨hend, hm⟩ | ⟨ex, hex, hcont, hcase⟩
    · refine ⟨l, none, e :: es, hm, rfl, ?_⟩
      have hlen : (absL enc l).length ≤ p - l.base := by
        rw [absL, List.length_map, ← hend, wf_lastIndex hw, Nat.add_sub_cancel_left]; exact Nat.le_refl _
      rw [List.getElem?_eq_none hlen, List.map_append]
      rfl
    · have habs : (absL enc l)[p - l.base]? = some (absE enc ex) := by
        rw [absL, List.getElem?_map, ← hidx, (get?_eq_some_iff.mp hex).2]
        rfl
      rw [habs]
      rcases hcase with ⟨hconf, hm⟩ | ⟨hconf, hm⟩ <;> rw [hm]
      · have hle : p + 1 ≤ l.lastIndex := hei ▸ ((wf_contains_iff hw).mp hcont).2
        obtain ⟨l1, tr, app, h1, h2, h3⟩ := ih (p + 1) hces (Nat.le_succ_of_le hb) hle
        refine ⟨l1, tr, app, h1, h2, h3.trans ?_⟩
        rw [Nat.sub_add_comm hb]
        exact (if_pos (show (absE enc ex).term = (absE enc e).term from hconf)).symm
      · refine ⟨_, some e.index, e :: es, rfl, rfl, ?_⟩
        rw [List.map_append, List.map_take, hidx]
        exact (if_neg (show ¬ (absE enc ex).term = (absE enc e).term from hconf)).symm

/-- **The accepting path of the AppendEntries handler is the model's `recvAEok`** on the log
    and the commit index. -/
theorem aeAccept_refines (enc : Entry → Nat) (n : Node) (now : Nat) (q : AEReq) (hp : AEPre n q)
    (h1 : n.log.base ≤ q.prevIndex) (h2 : q.prevIndex ≤ n.log.lastIndex) :
    absL enc (aeAccept n now q).1.log = merge (absL enc n.log) (q.prevIndex - n.log.base) (q.entries.map (absE enc)) ∧
    (aeAccept n now q).1.log.base = n.log.base ∧
    (aeAccept n now q).1.commitIndex = max n.commitIndex (min q.leaderCommit (q.prevIndex + q.entries.length)) := by
  obtain ⟨l1, tr, app, hms, hbase, habs⟩ := mergeScan_refines enc n.log hp.wf q.entries q.prevIndex hp.contig h1 h2
  rw [aeAccept_of_merge now hms]
  exact ⟨habs, hbase, rfl⟩

theorem termAt_absL (enc : Entry → Nat) {l : Log} {k : Nat} {e : Entry} (h : l.ents[k]? = some e) :
    termAt (absL enc l) (k + 1) = e.term := by
  rw [termAt, absL, List.getElem?_map, h]
  rfl

/-- **The previous-entry check that lets a request through is the model's guard** (no
    compaction: boundary 0). -/
theorem aePrevCheck_ok_guard (enc : Entry → Nat) (n : Node) (q : AEReq) (hw : n.log.WF) (hb : n.log.base = 0)
    (hs : n.snapIndex = 0) (hst : n.snapTerm = 0) (h : aePrevCheck n q = .ok) :
    q.prevIndex ≤ (absL enc n.log).length ∧ termAt (absL enc n.log) q.prevIndex = q.prevTerm := by
  obtain ⟨-, h2, h3, h4⟩ := aePrevCheck_ok_iff.mp h
  rw [wf_lastIndex hw, hb, Nat.zero_add] at h2
  rw [hs] at h3 h4
  refine ⟨by rw [absL, List.length_map]; exact h2, ?_⟩
  cases hq : q.prevIndex with
  | zero => exact hst.symm.trans (h4 hq.symm)
  | succ k =>
    obtain ⟨pe, hpe, hpt⟩ := h3 (hq ▸ Nat.succ_pos k)
    have hk := (get?_eq_some_iff.mp hpe).2
    rw [hq, hb] at hk
    exact (termAt_absL enc hk).trans hpt

set_option linter.unusedVariables false in
/-- **A granted vote goes to a candidate whose (last term, last index) is at least the voter's**: the model's
    up-to-date guard, stated on the node's log and not on its abstraction (so `enc` plays no part; it is there
    like in the other statements of this file). It is `requestVote_upToDate` with the sides turned. -/
theorem requestVote_grant_upToDate (enc : Entry → Nat) {n n' : Node} {now : Nat} {q : RVReq} {r : RVResp} {eff : List Effect}
    (h : requestVote n now q = some (n', r, eff)) (hg : r.granted = true) :
    q.lastTerm > n.log.lastTerm ∨ (q.lastTerm = n.log.lastTerm ∧ q.lastIndex ≥ n.log.lastIndex) :=
  (requestVote_upToDate h hg).imp_right fun ⟨ht, hi⟩ => ⟨ht.symm, hi⟩

/-- **A client submission is the model's `clientAppend`**: a leader appends exactly one entry
    of its own term at the end of its log. -/
theorem submitReplicated_refines (enc : Entry → Nat) (n : Node) (now d : Nat) (h : n.role = .leader) :
    ∃ e : Entry, e.term = n.term ∧ absL enc (n.submitReplicated now d).1.log = absL enc n.log ++ [absE enc e] := by
  obtain ⟨m, hm, hs⟩ := Node.submitReplicated_leader n now d h
  obtain ⟨k, hn, -⟩ := Node.sendAEToPeers_node m now
  rw [hs, hn]
  exact ⟨n.submitEntry d, rfl, (congrArg (absL enc) hm).trans List.map_append⟩

/-- **`becomeLeader` is the model's `becomeLeader`** on the log: one no-op of the node's term. -/
theorem becomeLeader_refines (enc : Entry → Nat) (n : Node) (now : Nat) :
    ∃ e : Entry, e.term = n.term ∧ e.kind = kNoop ∧ absL enc (n.becomeLeader now).1.log = absL enc n.log ++ [absE enc e] ∧
      (n.becomeLeader now).1.role = .leader ∧ (n.becomeLeader now).1.term = n.term := by
  obtain ⟨k, h, -⟩ := Node.becomeLeader_node n now
  rw [h]
  exact ⟨_, rfl, rfl, List.map_append, rfl, rfl⟩

end Repl
end Raft
