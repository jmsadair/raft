/-
  Properties/C18.lean — the public API is total.

  * String tables, REGENERATED from the source (Generated/Tables.lean): every constant of
    `State` and of `OperationType` has a case in its `String` method that returns a literal
    (the `default: panic` is unreachable for values the library itself produces).
  * The future (future.go): a channel of capacity one written by a non-blocking send, read
    with a timeout: `respond` never blocks, only the first answer is kept, `Await` returns
    no later than its timeout.
  * The client-facing sections (submit replicated / read-only, AddServer, RemoveServer, Stop)
    never take a `logger.Fatal` path or a run-time panic. (The two membership theorems carry a
    well-formedness hypothesis they do not need: `committedThisTerm` reads the log only behind
    `Contains`, `committedThisTerm_isSome`.)
  * A membership future is answered successfully by the apply step that applies its entry —
    also when applying it makes the leader step down (self-removal).
  Tie: E5-api (API words on a live cluster), E3-leader (client answers vs the model),
  E3-lifecycle. PARTIAL: "never blocks forever" is a statement about the Go scheduler and the
  mutexes; the model carries the guards and the future, E5 searches for blocked calls.
-/
import RaftVerif.Generated.Tables
import RaftVerif.Proofs.LeaderSpecs
import RaftVerif.Model.Lifecycle
namespace Raft
open Gen Node

/-- The case of constant `c` returns a literal. For each `case` of a `String` method the extractor records the
    literal the case returns, or the marker "panic" (the body calls `panic`) or "other" (anything else); a case
    that returned one of these two words as a literal would be read as the marker. -/
def returnsLiteral (cases : List (String × String)) (c : String) : Bool :=
  match cases.lookup c with
  | some s => s != "panic" && s != "other"
  | none => false

theorem C18_state_string_total : ∀ c ∈ stateConsts, returnsLiteral stateStringCases c = true := by decide +kernel

theorem C18_operation_type_string_total :
    ∀ c ∈ operationTypeConsts, returnsLiteral operationTypeStringCases c = true := by decide +kernel

example : stateConsts.length = 5 ∧ operationTypeConsts.length = 3 := by decide +kernel

structure Fut (α : Type) where
  buf : Option α := none       -- `responseCh`, capacity one
  timeout : Nat

/-- `respond`: `select { case ch <- v: default: }` — never blocks. -/
def Fut.respond {α : Type} (f : Fut α) (v : α) : Fut α :=
  match f.buf with
  | none => { f with buf := some v }
  | some _ => f

/-- `Await` entered at time 0; `arrival` = the time the first `respond` happens (`none`: never).
    Returns the result (`none` = `ErrTimeout`) and the time at which it returns. -/
def Fut.await {α : Type} (f : Fut α) (arrival : Option (Nat × α)) : Option α × Nat :=
  match f.buf with
  | some v => (some v, 0)
  | none =>
    match arrival with
    | some (t, v) => if t < f.timeout then (some v, t) else (none, f.timeout)
    | none => (none, f.timeout)

/-- **Every future resolves by its timeout**, whatever the node does. -/
theorem C18_await_by_timeout {α : Type} (f : Fut α) (arrival : Option (Nat × α)) : (f.await arrival).2 ≤ f.timeout := by
  unfold Fut.await
  cases f.buf with
  | some v => exact Nat.zero_le _
  | none =>
    cases arrival with
    | none => exact Nat.le_refl _
    | some x =>
      dsimp only
      split
      · rename_i h; exact Nat.le_of_lt h
      · exact Nat.le_refl _

/-- **Only the first answer counts**: a second `respond` changes nothing (and does not block:
    `respond` is a total function). -/
theorem C18_respond_once {α : Type} (f : Fut α) (v w : α) : (f.respond v).respond w = f.respond v := by
  cases hb : f.buf <;> simp [Fut.respond, hb]

/-- A second `Await` on the same future, entered `d` time units after the first. `Await` holds
    the future's mutex while it waits (fix S33), so the second caller proceeds when the first has
    returned and finds the cached result: same result; its own waiting time is what was left of the
    first caller's. (Before the fix both callers raced for the channel and for the cache: the loser
    reported a timeout for an operation that had succeeded.) -/
def Fut.awaitSecond {α : Type} (f : Fut α) (arrival : Option (Nat × α)) (d : Nat) : Option α × Nat :=
  ((f.await arrival).1, (f.await arrival).2 - d)

theorem C18_second_awaiter_same_result_by_timeout {α : Type} (f : Fut α) (arrival : Option (Nat × α)) (d : Nat) :
    (f.awaitSecond arrival d).1 = (f.await arrival).1 ∧ (f.awaitSecond arrival d).2 ≤ f.timeout :=
  ⟨rfl, Nat.le_trans (Nat.sub_le _ _) (C18_await_by_timeout f arrival)⟩

theorem C18_submit_replicated_total (n : Node) (now d : Nat) :
    Effect.fatal ∉ (n.submitReplicated now d).2.1 ∧ Effect.panic ∉ (n.submitReplicated now d).2.1 :=
  no_abort_of_append_wake fun _ => mem_submitReplicated

theorem C18_submit_read_only_total (n : Node) (now tag : Nat) (lease : Bool) :
    Effect.fatal ∉ (n.submitReadOnly now tag lease).2.1 ∧ Effect.panic ∉ (n.submitReadOnly now tag lease).2.1 := by
  refine no_abort_of_append_wake fun e h => .inr ?_
  have h1 : ∀ {c : Prop} [Decidable c], e ∈ (if c then [Effect.signalReadOnly] else []) → e.isWake = true :=
    fun he => List.mem_singleton.mp (List.mem_ite_nil_right.mp he).2 ▸ rfl
  unfold submitReadOnly at h
  by_cases hl : n.role ≠ .leader
  · rw [if_pos hl] at h; nomatch h
  rw [if_neg hl] at h
  extract_lets reg n1 e1 at h
  split at h
  · exact (List.mem_append.mp h).elim h1 sendAEToPeers_wake
  · exact h1 h

set_option linter.unusedVariables false in
theorem C18_add_server_total (n : Node) (now id : Nat) (v : Bool) (hw : n.log.WF) :
    Effect.fatal ∉ (n.addServer now id v).2.1 ∧ Effect.panic ∉ (n.addServer now id v).2.1 :=
  no_abort_of_append_wake fun _ => mem_addServer_removeServer.1 id v

set_option linter.unusedVariables false in
theorem C18_remove_server_total (n : Node) (now id : Nat) (hw : n.log.WF) :
    Effect.fatal ∉ (n.removeServer now id).2.1 ∧ Effect.panic ∉ (n.removeServer now id).2.1 :=
  no_abort_of_append_wake fun _ => mem_addServer_removeServer.2 id

theorem C18_stop_total (n : Node) : Effect.fatal ∉ n.stop.2 ∧ Effect.panic ∉ n.stop.2 := by
  have key : ∀ e ∈ n.stop.2, e = .snapDiscard := fun e h => by
    unfold stop at h
    by_cases hs : n.role = .shutdown
    · rw [if_pos hs] at h; nomatch h
    · rw [if_neg hs] at h; exact List.mem_singleton.mp (List.mem_ite_nil_right.mp h).2
  exact ⟨(nomatch key _ ·), (nomatch key _ ·)⟩

/-- **A membership change that is applied while its future is pending answers it with
    success** — whatever applying the configuration does to the node (a leader that removed
    itself steps down in this very step and still answers). -/
theorem C18_membership_future_answered (n : Node) (now : Nat) (e : Entry) (c : Config)
    (hl : n.lastApplied < n.commitIndex) (hs : n.role ≠ .shutdown)
    (hg : n.log.get? (n.lastApplied + 1) = some e) (hk : e.kind = kConfig) (hc : e.cfg = some c)
    (hf : n.cfgFuture = some e.index) :
    (n.applyStep now).2.2 = .config e.index c true ∧ (n.applyStep now).1.cfgFuture = none := by
  unfold applyStep
  rw [if_pos ⟨hl, hs⟩, hg]
  obtain ⟨k', hn⟩ := applyConfiguration_node n now c
  simp only [hk, kConfig, kNoop, hc, hn]
  simp [hf]

end Raft
