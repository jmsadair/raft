/-
  Proofs/ReplReadMono.lean — reads that do not overlap in time never go backwards (C05, second
  clause), on the timed replication-layer model (Model/ReplRead.lean).

  `LeaderCommitEv`: whenever a leader's commit index points at an entry of its own term (the
  condition under which the code serves reads), the ghost history holds the commit event that
  put it there, with exactly the prefix the leader has committed. A later read is fresh with respect
  to that event (`linearizable_read`), which is `reads_never_go_backwards`.
-/
import RaftVerif.Proofs.ReplRead
namespace Raft
namespace Repl

/-- the ghost history `C` holds the commit event for what node `l`, in state `n`, has committed -/
def HasEv (C : List CommitEv) (l : Nat) (n : ANode) : Prop :=
  n.role = .leader → termAt n.log n.commit = n.term →
    ∃ e ∈ C, e.leader = l ∧ e.term = n.term ∧ e.index = n.commit ∧ e.pre = n.log.take n.commit

def LeaderCommitEv (r : RState) : Prop := ∀ l, HasEv r.commitAt l (r.s.nodes l)

/-- Only `advanceCommit` moves a leader's commit index, and it records the event; `clientAppend`
    extends the log beyond it; a candidate's log has no entry of its term (`cand_log`), so
    `becomeLeader` cannot start with such a commit index; every other step makes the node a
    follower or leaves it alone. -/
theorem lce_step {cfg : Config} {r r' : RState} (hi : Inv cfg r.s) (h : LeaderCommitEv r) (hst : RStep cfg r r') :
    LeaderCommitEv r' := by
  intro j
  -- a step that replaces node `i` and keeps the events: only the new node has to be looked at
  have set : ∀ {C : List CommitEv} (i : Nat) (n' : ANode), (∀ e ∈ r.commitAt, e ∈ C) →
      (HasEv r.commitAt i (r.s.nodes i) → HasEv C i n') → HasEv C j (setNode r.s i n' j) :=
    fun {C} i n' hsub hn => setNode_all (P := HasEv C) (hn (h i))
      (fun j hl ht => (h j hl ht).imp fun e he => ⟨hsub e he.1, he.2⟩) j
  cases hst with
  | sendAE | readSubmit | tick => exact h j
  | grant m q hq ht hone hup =>
    refine set m _ (fun _ he => he) fun hm hl htm => ?_
    rcases grant_role ht with h | ⟨h, hq'⟩
    · exact absurd (h ▸ hl) nofun
    · simp only [hq'] at htm ⊢
      exact hm (h ▸ hl) htm
  | becomeLeader c Q hc hQ hv =>
    refine set c _ (fun _ he => he) fun _ _ htm => ?_
    exfalso
    simp only [termAt_append_left (hi.commit_ok c).1] at htm
    have := termAt_le_bound (fun e he => Nat.le_sub_one_of_lt (hi.cand_log c hc e he)) (r.s.nodes c).commit
    have := hi.role_pos c (by rw [hc]; simp)
    omega
  | clientAppend l p hl =>
    refine set l _ (fun _ he => he) fun hm hl' htm => ?_
    have hcl := (hi.commit_ok l).1
    simp only [termAt_append_left hcl] at htm
    obtain ⟨e, he, h1, h2, h3, h4⟩ := hm hl' htm
    exact ⟨e, he, h1, h2, h3, h4.trans (List.take_append_of_le_length hcl).symm⟩
  | advanceCommit l i Q hl hil hti hQ hack =>
    exact set l _ (fun _ he => .tail _ he) fun _ _ _ => ⟨_, .head _, rfl, rfl, rfl, rfl⟩
  | _ => exact set _ _ (fun _ he => he) fun _ => nofun

theorem lce_reachable {cfg : Config} (hnd : cfg.voterIds.Nodup) {r : RState} (h : RReachable cfg r) : LeaderCommitEv r := by
  induction h with
  | base => exact fun _ => nofun
  | step hr hst ih => exact lce_step (rinv_reachable hnd hr).base ih hst

/-- **Reads that do not overlap never go backwards** (`C05_reads_never_go_backwards`): `r1.now ≤ rd2.time` says
    that the second read was invoked after the first one completed. No assumption on timing. -/
theorem reads_never_go_backwards {cfg : Config} (hnd : cfg.voterIds.Nodup) {r1 r2 : RState}
    (h1 : RReachable cfg r1) (h12 : RReachableFrom cfg r1 r2)
    (rd1 rd2 : Read) (a1 a2 : Nat) (Q1 Q2 : List Nat)
    (hs1 : CanServe cfg r1 rd1 a1 Q1) (hs2 : CanServe cfg r2 rd2 a2 Q2) (hafter : r1.now ≤ rd2.time) :
    a1 ≤ a2 ∧ (r1.s.nodes rd1.leader).log.take a1 <+: (r2.s.nodes rd2.leader).log.take a2 := by
  obtain ⟨_, hl1, ht1, hc1, _, ha1, _, _⟩ := hs1
  obtain ⟨e, he, _, _, hei, hep⟩ := lce_reachable hnd h1 rd1.leader hl1 (by rw [hc1, ht1])
  have het : e.time < r1.now := ((rinv_reachable hnd h1).commit_ok e he).1
  have he2 : e ∈ r2.commitAt := (rfrom_mono h12).2 e he
  obtain ⟨hle, hpre⟩ := linearizable_read hnd (rreachable_trans h1 h12) rd2 a2 Q2 hs2 e he2 (Nat.lt_of_lt_of_le het hafter)
  refine ⟨Nat.le_trans ha1 (hei ▸ hle), ?_⟩
  rw [← take_take_le (l := (r1.s.nodes rd1.leader).log) ha1, ← hep]
  exact List.IsPrefix.trans (List.take_prefix _ _) hpre

end Repl
end Raft
