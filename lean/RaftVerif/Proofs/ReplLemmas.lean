/-
  Proofs/ReplLemmas.lean — list facts behind the replication-layer invariants:
  `termAt`, prefixes (`take`), sortedness, and the specification of `merge`; at the end `quorum_meet`, the
  form in which the replication layer uses `quorums_intersect`.
-/
import RaftVerif.Model.Repl
import RaftVerif.Proofs.Quorum
namespace Raft
namespace Repl

abbrev Sorted (l : List AEntry) : Prop := l.Pairwise (fun a b => a.term ≤ b.term)

theorem termAt_zero (l : List AEntry) : termAt l 0 = 0 := rfl

theorem termAt_succ (l : List AEntry) (i : Nat) (h : i < l.length) : termAt l (i + 1) = (l[i]).term := by
  simp only [termAt, List.getElem?_eq_getElem h]

theorem termAt_beyond (l : List AEntry) (i : Nat) (h : l.length < i) : termAt l i = 0 := by
  cases i with
  | zero => rfl
  | succ i => simp only [termAt, List.getElem?_eq_none (Nat.le_of_lt_succ h)]

theorem termAt_take {l : List AEntry} {i k : Nat} (h : i ≤ k) : termAt (l.take k) i = termAt l i := by
  cases i with
  | zero => rfl
  | succ i => simp only [termAt, List.getElem?_take_of_lt h]

theorem termAt_append_left {l r : List AEntry} {i : Nat} (h : i ≤ l.length) : termAt (l ++ r) i = termAt l i := by
  cases i with
  | zero => rfl
  | succ i => simp only [termAt, List.getElem?_append_left h]

theorem termAt_append_last (l : List AEntry) (e : AEntry) : termAt (l ++ [e]) (l.length + 1) = e.term := by
  simp only [termAt, List.getElem?_concat_length]

theorem lastTerm_append (l : List AEntry) (e : AEntry) : lastTerm (l ++ [e]) = e.term := by
  rw [lastTerm, List.length_append, List.length_singleton, termAt_append_last]

theorem termAt_of_take_eq {l1 l2 : List AEntry} {i : Nat} (h : l1.take i = l2.take i) : termAt l1 i = termAt l2 i := by
  rw [← termAt_take (Nat.le_refl i), h, termAt_take (Nat.le_refl i)]

theorem termAt_mem {l : List AEntry} {i : Nat} (h1 : 1 ≤ i) (h2 : i ≤ l.length) : ∃ e ∈ l, e.term = termAt l i := by
  cases i with
  | zero => omega
  | succ i => exact ⟨l[i], List.getElem_mem h2, (termAt_succ l i h2).symm⟩

theorem termAt_le_of_sorted {l : List AEntry} (hs : Sorted l) {i j : Nat} (hij : i ≤ j) (hj : j ≤ l.length) :
    termAt l i ≤ termAt l j := by
  cases i with
  | zero => exact Nat.zero_le _
  | succ i =>
    cases j with
    | zero => exact absurd hij (Nat.not_succ_le_zero i)
    | succ j =>
      rcases Nat.eq_or_lt_of_le (Nat.le_of_succ_le_succ hij) with rfl | hlt
      · exact Nat.le_refl _
      · rw [termAt_succ l i (Nat.lt_trans hlt hj), termAt_succ l j hj]
        exact List.pairwise_iff_getElem.mp hs i j _ hj hlt

theorem termAt_le_bound {l : List AEntry} {b : Nat} (h : ∀ e ∈ l, e.term ≤ b) (i : Nat) : termAt l i ≤ b := by
  rcases Nat.lt_or_ge l.length i with hb | hb
  · rw [termAt_beyond l i hb]; exact Nat.zero_le _
  · rcases Nat.eq_zero_or_pos i with rfl | h1
    · exact Nat.zero_le _
    · obtain ⟨e, he, het⟩ := termAt_mem h1 hb
      rw [← het]; exact h e he

theorem sorted_append_one {l : List AEntry} (hs : Sorted l) (e : AEntry) (h : ∀ x ∈ l, x.term ≤ e.term) : Sorted (l ++ [e]) :=
  List.pairwise_append.mpr ⟨hs, List.pairwise_singleton _ e, fun a ha _ hb => List.mem_singleton.mp hb ▸ h a ha⟩

theorem take_take_le {l : List AEntry} {i k : Nat} (h : i ≤ k) : (l.take k).take i = l.take i := by
  rw [List.take_take, Nat.min_eq_left h]

theorem take_eq_of_le {l1 l2 : List AEntry} {i k : Nat} (h : l1.take k = l2.take k) (hik : i ≤ k) : l1.take i = l2.take i := by
  rw [← take_take_le hik, h, take_take_le hik]

theorem length_of_take_eq {l1 l2 : List AEntry} {i : Nat} (h : l1.take i = l2.take i) (h2 : i ≤ l2.length) : i ≤ l1.length := by
  rw [← List.length_take_of_le h2, ← h]; exact List.length_take_le' i l1

theorem take_append_one_of_le {l : List AEntry} {e : AEntry} {i : Nat} (h : i ≤ l.length) : (l ++ [e]).take i = l.take i :=
  List.take_append_of_le_length h

/-! what a prefix `g` of `g'` already determines -/

theorem take_prefix_stable {g g' : List AEntry} (h : g <+: g') {i : Nat} (hi : i ≤ g.length) : g'.take i = g.take i := by
  obtain ⟨r, hr⟩ := h
  rw [← hr, List.take_append_of_le_length hi]

theorem termAt_prefix_stable {g g' : List AEntry} (h : g <+: g') {i : Nat} (hi : i ≤ g.length) : termAt g' i = termAt g i := by
  obtain ⟨r, hr⟩ := h
  rw [← hr, termAt_append_left hi]

theorem drop_take_prefix_stable {g g' : List AEntry} (h : g <+: g') {p n : Nat} (hb : p + n ≤ g.length) :
    (g'.drop p).take n = (g.drop p).take n := by
  rw [List.take_drop, List.take_drop, take_prefix_stable h hb]

theorem index_lt_of_term_lt {l : List AEntry} (hs : Sorted l) {i j : Nat} (hi : i ≤ l.length)
    (ht : termAt l i < termAt l j) : i < j :=
  Nat.lt_of_not_le fun h => Nat.lt_irrefl _ (Nat.lt_of_lt_of_le ht (termAt_le_of_sorted hs h hi))

theorem seg_cons {g : List AEntry} {pos : Nat} {e : AEntry} {es : List AEntry}
    (h : e :: es = (g.drop pos).take (es.length + 1)) : g[pos]? = some e ∧ es = (g.drop (pos + 1)).take es.length := by
  have hlt : pos < g.length := Nat.lt_of_not_le fun hle => by rw [List.drop_eq_nil_of_le hle] at h; cases h
  rw [List.drop_eq_getElem_cons hlt, List.take_succ_cons] at h
  obtain ⟨rfl, hes⟩ := List.cons.inj h
  exact ⟨List.getElem?_eq_getElem hlt, hes⟩

/-- What `merge` returns when the request is a segment of a reference log `g` (the log of the
    leader that sent it), the node's log agrees with `g` below the segment, and matching terms
    mean matching prefixes (log matching). -/
theorem merge_spec (log g : List AEntry) :
    ∀ (es : List AEntry) (pos : Nat), pos ≤ log.length → log.take pos = g.take pos →
      es = (g.drop pos).take es.length →
      (∀ i, pos < i → i ≤ log.length → i ≤ pos + es.length → termAt log i = termAt g i → log.take i = g.take i) →
      (merge log pos es).take (pos + es.length) = g.take (pos + es.length) ∧
      (merge log pos es = log ∨ merge log pos es = g.take (pos + es.length)) ∧
      (pos + es.length ≤ log.length → log.take (pos + es.length) = g.take (pos + es.length) → merge log pos es = log) := by
  intro es
  induction es with
  | nil =>
    intro pos hpos hpre _ _
    exact ⟨hpre, Or.inl rfl, fun _ _ => rfl⟩
  | cons e es ih =>
    intro pos hpos hpre hseg hmatch
    simp only [List.length_cons] at hseg hmatch ⊢
    obtain ⟨hge, hes⟩ := seg_cons hseg
    have hfull : g.take pos ++ (e :: es) = g.take (pos + (es.length + 1)) := by
      rw [hseg]; exact List.take_add.symm
    have hstep : pos + 1 ≤ pos + (es.length + 1) := Nat.add_le_add_left (Nat.le_add_left 1 _) pos
    unfold merge
    cases hl : log[pos]? with
    | none =>
      have hle : log.length ≤ pos := List.getElem?_eq_none_iff.mp hl
      simp only
      have hR : log ++ e :: es = g.take (pos + (es.length + 1)) := by rw [← hfull, ← hpre, List.take_of_length_le hle]
      refine ⟨?_, Or.inr hR, ?_⟩
      · rw [hR, List.take_take, Nat.min_self]
      · intro h _; omega
    | some x =>
      simp only
      have hposlt : pos < log.length := (List.getElem?_eq_some_iff.mp hl).1
      have hxt : termAt log (pos + 1) = x.term := by simp only [termAt, hl]
      have het : termAt g (pos + 1) = e.term := by simp only [termAt, hge]
      by_cases hxe : x.term = e.term
      · rw [if_pos hxe]
        have hpre' : log.take (pos + 1) = g.take (pos + 1) :=
          hmatch (pos + 1) (Nat.lt_succ_self pos) hposlt hstep (by rw [hxt, het, hxe])
        have heq : pos + 1 + es.length = pos + (es.length + 1) := by omega
        rw [← heq]
        exact ih (pos + 1) hposlt hpre' hes fun i h1 h2 h3 h4 => hmatch i (Nat.lt_of_succ_lt h1) h2 (heq ▸ h3) h4
      · rw [if_neg hxe]
        have hR : log.take pos ++ e :: es = g.take (pos + (es.length + 1)) := by rw [hpre]; exact hfull
        refine ⟨?_, Or.inr hR, ?_⟩
        · rw [hR, List.take_take, Nat.min_self]
        · intro _ h2
          have := termAt_of_take_eq (take_eq_of_le h2 hstep)
          rw [hxt, het] at this
          exact absurd this hxe

set_option linter.unusedVariables false in
/-- quorums intersect; `hnd` is what every cluster-level statement assumes of the configuration, though
    `quorums_intersect` does not need it -/
theorem quorum_meet {cfg : Config} (hnd : cfg.voterIds.Nodup) {Q1 Q2 : List Nat} (h1 : IsQuorum cfg Q1) (h2 : IsQuorum cfg Q2) :
    ∃ v, v ∈ Q1 ∧ v ∈ Q2 :=
  Cluster.quorums_intersect cfg Q1 Q2 h1.1 h2.1 h1.2.1 h2.2.1 h1.2.2 h2.2.2

end Repl
end Raft
