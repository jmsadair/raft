/-
  Proofs/ReplLease.lean — lease reads are fresh while the timing assumption holds (C17): in a timely run with
  `LD + D ≤ ET` no leader of a later term exists while a lease is valid, so a lease read is as good as a
  confirmed one. A crash is a `quiet` step of the lease model, so `contact` survives it; the code forgets the time of
  its last answer but sets `lastContact` to the time of the restart (`C16_started_node_is_in_contact`), which is
  later: a restarted node votes no earlier than the model lets it.
-/
import RaftVerif.Model.ReplLease
import RaftVerif.Proofs.ReplRead
namespace Raft
namespace Repl

structure LInv (cfg : Config) (ET LD D : Nat) (l : LState) : Prop where
  base : RInv cfg l.r
  contact_ge : ∀ n T st τa, (n, T, st, τa) ∈ l.r.hbAck → τa ≤ l.contact n
  sticky : ∀ T' m c τv T st τa, (T', m, c, τv) ∈ l.r.voteAt → (m, T, st, τa) ∈ l.r.hbAck → τa ≤ τv → τa + ET ≤ τv
  proc_ok : ∀ ldr m T st τp, (ldr, m, T, st, τp) ∈ l.proc → ∃ τa, (m, T, st, τa) ∈ l.r.hbAck
  lease_ok : ∀ ldr T untl, (ldr, T, untl) ∈ l.leases → ∃ st Q, IsQuorum cfg Q ∧ untl ≤ st + D + LD ∧
    ∀ m ∈ Q, m = ldr ∨ ∃ τa, (m, T, st, τa) ∈ l.r.hbAck

/-- A step of the timed model under the timing discipline: a vote cast now comes `ET` after the
    voter's last answer, an answer given now sets the contact time, and no step does both. -/
theorem linv_rstep {cfg : Config} (hnd : cfg.voterIds.Nodup) {ET LD D : Nat} {l : LState} (hl : LInv cfg ET LD D l)
    {r' : RState} {contact' : Nat → Nat} (hs : RStep cfg l.r r')
    (hV : Adds l.r.voteAt r'.voteAt fun (_, m, _, τ) => τ = l.r.now ∧ l.contact m + ET ≤ l.r.now ∧ r'.hbAck = l.r.hbAck)
    (hH : Adds l.r.hbAck r'.hbAck fun (n, _, _, τ) => τ = l.r.now ∧ contact' n = l.r.now)
    (hc : ∀ n, contact' n = l.contact n ∨ contact' n = l.r.now) :
    LInv cfg ET LD D { l with r := r', contact := contact' } := by
  have hb := hl.base
  exact {
    base := rinv_step hnd hb hs
    contact_ge := by
      intro n T st τa h
      show τa ≤ contact' n
      rcases hH.cases h with ho | ⟨h1, h2⟩
      · exact (hc n).elim (· ▸ hl.contact_ge n T st τa ho) (· ▸ Nat.le_of_lt (hb.hb_ok n T st τa ho).1)
      · exact Nat.le_of_eq (h1.trans h2.symm)
    sticky := by
      intro T' m c τv T st τa hv ha hle
      rcases hV.cases hv with hvo | ⟨h1, h2, h3⟩
      · rcases hH.cases ha with hao | ⟨h4, _⟩
        · exact hl.sticky T' m c τv T st τa hvo hao hle
        · -- a new answer comes after every recorded vote
          exact absurd (h4 ▸ hle) (Nat.not_le_of_lt (hb.vote_time _ _ _ _ hvo).1)
      · -- a new vote: all answers are old ones, the last of them `ET` ago
        exact h1 ▸ Nat.le_trans (Nat.add_le_add_right (hl.contact_ge _ _ _ _ (h3 ▸ ha)) ET) h2
    proc_ok := by
      intro ldr m T st τp h
      obtain ⟨τa, hτa⟩ := hl.proc_ok ldr m T st τp h
      exact ⟨τa, hH.old hτa⟩
    lease_ok := by
      intro ldr T untl h
      obtain ⟨st, Q, hQ, hu, hall⟩ := hl.lease_ok ldr T untl h
      exact ⟨st, Q, hQ, hu, fun m hm => (hall m hm).imp_right fun ⟨τa, hτa⟩ => ⟨τa, hH.old hτa⟩⟩ }

theorem linv_step {cfg : Config} (hnd : cfg.voterIds.Nodup) {ET LD D : Nat} {l l' : LState} (hl : LInv cfg ET LD D l)
    (h : LStep cfg ET LD D l l') : LInv cfg ET LD D l' := by
  cases h with
  | vote r' T m c hs hv hh hst => exact linv_rstep hnd hl hs (hv ▸ .one ⟨rfl, hst, hh⟩) (hh ▸ .none) (fun _ => .inl rfl)
  | answer r' n T st hs hv hh =>
    exact linv_rstep hnd hl hs (hv ▸ .none) (hh ▸ .one ⟨rfl, if_pos rfl⟩)
      fun j => if h : j = n then .inr (if_pos h) else .inl (if_neg h)
  | quiet r' hs hv hh => exact linv_rstep hnd hl hs (hv ▸ .none) (hh ▸ .none) (fun _ => .inl rfl)
  | process ldr m T st τa hack hD =>
    refine { hl with proc_ok := fun ldr' m' T0 st0 τp h => ?_ }
    rcases List.mem_cons.mp h with hn | ho
    · cases hn; exact ⟨τa, hack⟩
    · exact hl.proc_ok ldr' m' T0 st0 τp ho
  | renew ldr st Q hld hQ hall hD =>
    have new := fun m hm => (hall m hm).imp_right fun ⟨τp, hτp⟩ => hl.proc_ok _ m _ st τp hτp
    exact { hl with lease_ok := forall_mem_cons₃ ⟨st, Q, hQ, Nat.add_le_add_right hD LD, new⟩ hl.lease_ok }

theorem linv_reachable {cfg : Config} (hnd : cfg.voterIds.Nodup) {ET LD D : Nat} {l : LState} (h : LReachable cfg ET LD D l) :
    LInv cfg ET LD D l := by
  induction h with
  | base => exact { base := rinv_init cfg, contact_ge := nofun, sticky := nofun, proc_ok := nofun, lease_ok := nofun }
  | step _ hs ih => exact linv_step hnd ih hs

/-- **While a lease is valid there is no leader of a later term.** Timely runs,
    `LD + D ≤ ET`. -/
theorem no_later_leader_under_lease {cfg : Config} (hnd : cfg.voterIds.Nodup) {ET LD D : Nat} (hT : LD + D ≤ ET) {l : LState}
    (hreach : LReachable cfg ET LD D l) (ldr : Nat) (hv : LeaseValid l ldr) :
    ∀ T' c g, l.r.s.glog T' = some (c, g) → T' ≤ (l.r.s.nodes ldr).term := by
  have hl := linv_reachable hnd hreach
  have hr := hl.base
  obtain ⟨hrole, untl, hlease, hnow⟩ := hv
  intro T' c g hg
  apply Nat.le_of_not_lt
  intro hlt
  obtain ⟨τe, hτe⟩ := hr.glog_elect T' c g hg
  obtain ⟨st, Q, hQ, hu, hall⟩ := hl.lease_ok ldr _ untl hlease
  -- the election of `T'` came `ET` after an answer to the round the lease rests on: the lease has run out
  obtain ⟨m, st, τa, τv, hack, rfl, hvote, hsa, hav, hve⟩ := later_election_after_answer hnd hr (P := fun st' _ => st' = st)
    hτe hlt (Nat.le_refl _) hQ (fun m hm => (hall m hm).imp_right fun ⟨τa, h⟩ => ⟨st, τa, rfl, h⟩)
  exact Nat.lt_irrefl l.r.now (calc
    l.r.now < untl := hnow
    _ ≤ st + D + LD := hu
    _ = st + (D + LD) := Nat.add_assoc ..
    _ ≤ st + ET := Nat.add_le_add_left (Nat.add_comm LD D ▸ hT) st
    _ < τa + ET := Nat.add_lt_add_right hsa ET
    _ ≤ τv := hl.sticky T' m c τv _ _ τa hvote hack hav
    _ < τe := hve
    _ < l.r.now := (hr.elect_ok T' c τe hτe).1)

/-- **Lease reads are fresh.** A read registered at the lease holder and answered, at or beyond its read
    index, while the lease is valid contains every commit made — by any leader — before it was registered. -/
theorem lease_read_fresh {cfg : Config} (hnd : cfg.voterIds.Nodup) {ET LD D : Nat} (hT : LD + D ≤ ET) {l : LState}
    (hreach : LReachable cfg ET LD D l) (rd : Read) (a : Nat) (hrd : rd ∈ l.r.reads)
    (hv : LeaseValid l rd.leader) (hterm : (l.r.s.nodes rd.leader).term = rd.term)
    (hri : rd.readIndex ≤ a) :
    ∀ e ∈ l.r.commitAt, e.time < rd.time → e.index ≤ a ∧ e.pre <+: (l.r.s.nodes rd.leader).log.take a := by
  have hr := (linv_reachable hnd hreach).base
  refine read_fresh hr hrd hv.1 hterm hri fun e he _ => ?_
  obtain ⟨_, _, _, _, ⟨g, hg, _⟩, _⟩ := hr.commit_ok e he
  exact hterm ▸ no_later_leader_under_lease hnd hT hreach rd.leader hv e.term e.leader g hg

end Repl
end Raft
