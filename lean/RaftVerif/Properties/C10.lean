/-
  Properties/C10.lean — snapshots are exact (model with the state machine as the list of
  operation indices applied to it).

  `FsmExact`: the state machine holds exactly the committed operations up to
  `lastApplied`. It is preserved by every step of the apply loop, so a snapshot whose
  content is captured in the state in which its label was fixed (no apply scheduled in
  between: `snapshotSerial`) contains exactly the operations up to its label. The code
  captures the content with the lock released (known finding S9), so the unrestricted
  statement is FALSE: `C10_counterexample_apply_between_label_and_content` is the
  witness, replayed on the real code by the E4 scenario S9 (and found by the snapshot
  walks); restore + replay then applies an operation twice. Cluster level, on the
  replication-layer model: what an exact snapshot labelled `i` must contain is the same for
  every node and at every time (`C10_exact_snapshot_is_node_and_time_independent`).
-/
import RaftVerif.Model.Snapshot
import RaftVerif.Proofs.LeaderSpecs
import RaftVerif.Proofs.ReplSafety
namespace Raft
open Node

/-- the state machine holds exactly the committed operations up to `lastApplied` (`ops`: the indices of the
    committed operation entries, in increasing order) -/
def FsmExact (ops : List Nat) (x : NodeF) : Prop := x.fsm = ops.filter (· ≤ x.node.lastApplied)

/-- the node's log agrees with the committed sequence on which indices are operations -/
def LogAgrees (ops : List Nat) (n : Node) : Prop :=
  ∀ i e, n.log.get? i = some e → e.index = i ∧ (e.kind = kOp ↔ i ∈ ops)

theorem filter_le_succ_of_mem (ops : List Nat) (hs : ops.Pairwise (· < ·)) (k : Nat) (hk : k + 1 ∈ ops) :
    ops.filter (· ≤ k + 1) = ops.filter (· ≤ k) ++ [k + 1] := by
  -- sorted: what stands before `k + 1` is at most `k`, what stands after it is larger
  obtain ⟨l1, l2, rfl⟩ := List.append_of_mem hk
  obtain ⟨-, h2, h1⟩ := List.pairwise_append.mp hs
  have a1 : ∀ b ∈ l1, b ≤ k := fun b hb => Nat.le_of_lt_succ (h1 b hb _ List.mem_cons_self)
  have a2 : ∀ b ∈ l2, k + 1 < b := (List.pairwise_cons.mp h2).1
  have e1 : ∀ j, k ≤ j → l1.filter (· ≤ j) = l1 := fun j hj =>
    List.filter_eq_self.mpr fun b hb => decide_eq_true (Nat.le_trans (a1 b hb) hj)
  have e2 : ∀ j, j ≤ k + 1 → l2.filter (· ≤ j) = [] := fun j hj =>
    List.filter_eq_nil_iff.mpr fun b hb h =>
      Nat.lt_irrefl _ (Nat.lt_of_lt_of_le (a2 b hb) (Nat.le_trans (of_decide_eq_true h) hj))
  simp [List.filter_append, e1, e2]

theorem filter_le_succ_of_not_mem (ops : List Nat) (k : Nat) (hk : k + 1 ∉ ops) :
    ops.filter (· ≤ k + 1) = ops.filter (· ≤ k) :=
  List.filter_congr fun b hb => decide_eq_decide.mpr
    ⟨fun h => Nat.le_of_lt_succ (Nat.lt_of_le_of_ne h fun (e : b = k + 1) => hk (e ▸ hb)), Nat.le_succ_of_le⟩

/-- **Exactness is an invariant of the apply loop.** -/
theorem C10_apply_keeps_exact (ops : List Nat) (hs : ops.Pairwise (· < ·)) (x : NodeF) (now : Nat)
    (hl : LogAgrees ops x.node) (he : FsmExact ops x) : FsmExact ops (x.apply now) := by
  have hk := applyStep_cases x.node now
  unfold NodeF.apply FsmExact at *
  generalize x.node.applyStep now = r at hk ⊢
  have skip : ∀ e, x.node.log.get? (x.node.lastApplied + 1) = some e → e.kind ≠ kOp →
      ops.filter (· ≤ x.node.lastApplied + 1) = ops.filter (· ≤ x.node.lastApplied) := fun e hg hkind =>
    filter_le_succ_of_not_mem ops _ fun hm => hkind ((hl _ e hg).2.mpr hm)
  cases hk with
  | idle | fatal => exact he
  | noop _ e hg hkind => exact (skip e hg (by rw [hkind]; decide)).symm ▸ he
  | config _ e c hg hkind =>
    obtain ⟨k, hn⟩ := applyConfiguration_node x.node now c
    show x.fsm = ops.filter (· ≤ (x.node.applyConfiguration now c).1.lastApplied + 1)
    rw [hn]
    exact (skip e hg (by rw [hkind]; decide)).symm ▸ he
  | op _ e hg hkind =>
    obtain ⟨hidx, hiff⟩ := hl _ e hg
    show x.fsm ++ [e.index] = _
    rw [filter_le_succ_of_mem ops hs _ (hiff.mp hkind), he, hidx]

/-- **A serially taken snapshot is exact**: when nothing is scheduled between fixing the
    label and capturing the content, the content is the effect of exactly the committed
    operations up to the label (the label being the applied index, next theorem). -/
theorem C10_serial_snapshot_exact (ops : List Nat) (x : NodeF) (l : SnapLabel)
    (he : FsmExact ops x) (hidx : l.index = x.node.lastApplied) :
    x.snapshotContent = ops.filter (· ≤ l.index) := by
  unfold NodeF.snapshotContent
  rw [hidx]; exact he

/-- the label `snapshotBegin` fixes carries the applied index -/
theorem C10_label_is_applied_index (ops : List Nat) (n : Node) (l : SnapLabel) (eff : List Effect) (hl : LogAgrees ops n)
    (h : n.snapshotBegin = some (l, eff)) (hnf : Effect.fatal ∉ eff) : l.index = n.lastApplied := by
  unfold snapshotBegin at h
  by_cases h0 : n.lastApplied ≤ n.snapIndex
  · rw [if_pos h0] at h; nomatch h
  rw [if_neg h0] at h
  cases hc : n.committed with
  | none => rw [hc] at h; nomatch h
  | some cc =>
    rw [hc] at h
    dsimp only at h
    by_cases h1 : cc.index > n.lastApplied
    · rw [if_pos h1] at h; nomatch h
    rw [if_neg h1] at h
    cases hg : n.log.get? n.lastApplied with
    | none => rw [hg] at h; cases h; exact absurd List.mem_cons_self hnf
    | some e => rw [hg] at h; cases h; exact (hl _ e hg).1

/-! ### "Consequently": restore an exact snapshot, replay the following entries -/

/-- the apply loop, `k` times -/
def NodeF.applyN (x : NodeF) (now : Nat) : Nat → NodeF
  | 0 => x
  | k + 1 => (x.apply now).applyN now k

theorem NodeF.apply_node (x : NodeF) (now : Nat) : (x.apply now).node = (x.node.applyStep now).1 := by
  unfold NodeF.apply
  simp only
  split <;> rfl

theorem logAgrees_apply (ops : List Nat) (x : NodeF) (now : Nat) (hl : LogAgrees ops x.node) :
    LogAgrees ops (x.apply now).node := by
  unfold LogAgrees at *
  rw [NodeF.apply_node, (applyStep_spec x.node now).1]
  exact hl

theorem C10_exact_after_any_number_of_applies (ops : List Nat) (hs : ops.Pairwise (· < ·)) (now : Nat) :
    ∀ (k : Nat) (x : NodeF), LogAgrees ops x.node → FsmExact ops x → FsmExact ops (x.applyN now k) := by
  intro k
  induction k with
  | zero => exact fun _ _ he => he
  | succ k ih =>
    exact fun x hl he => ih (x.apply now) (logAgrees_apply ops x now hl) (C10_apply_keeps_exact ops hs x now hl he)

/-- a state machine restored from a snapshot: content and label go in together (what
    `InstallSnapshot` and a restart do) -/
def NodeF.restored (n : Node) (label : Nat) (content : List Nat) : NodeF :=
  { node := { n with lastApplied := label }, fsm := content }

/-- **Restore + replay = apply everything once, in order.** `y` starts from ANY exact snapshot
    (content = the operations up to its label) on any node whose log agrees with the committed
    sequence, and runs the apply loop any number of times; `x` is any replica that is exact (e.g.
    one that applied every entry from the beginning). Whenever the two have applied the same
    index they hold the same state: nothing was applied twice, nothing skipped. -/
theorem C10_restore_then_replay_equals_apply_all (ops : List Nat) (hs : ops.Pairwise (· < ·)) (now k : Nat)
    (n : Node) (label : Nat) (hl : LogAgrees ops n) (x : NodeF) (hx : FsmExact ops x)
    (hsame : x.node.lastApplied = ((NodeF.restored n label (ops.filter (· ≤ label))).applyN now k).node.lastApplied) :
    ((NodeF.restored n label (ops.filter (· ≤ label))).applyN now k).fsm = x.fsm := by
  have hy : FsmExact ops ((NodeF.restored n label (ops.filter (· ≤ label))).applyN now k) :=
    C10_exact_after_any_number_of_applies ops hs now k _ hl rfl
  unfold FsmExact at hy hx
  rw [hy, hx, hsame]

/-- the state used by the S9 witness: a sole voter that has applied index 3 (an operation),
    with index 4 (an operation) committed but not yet applied -/
def exS9 : NodeF :=
  { node := { id := 1, role := .leader, term := 2, commitIndex := 4, lastApplied := 3,
              config := ⟨1, [(1, true)]⟩, committed := some ⟨1, [(1, true)]⟩,
              log := { ents := [⟨1, 1, kConfig, 0, some ⟨1, [(1, true)]⟩⟩, ⟨2, 2, kNoop, 0, none⟩, ⟨3, 2, kOp, 31, none⟩, ⟨4, 2, kOp, 41, none⟩] } },
    fsm := [3] }

/-- **Witness of the known finding S9**: the label is fixed (3), then the apply loop runs
    once, then the content is captured: the snapshot labelled 3 contains operation 4. -/
theorem C10_counterexample_apply_between_label_and_content :
    (exS9.node.snapshotBegin).map (·.1.index) = some 3 ∧
    ((exS9.apply 0).snapshotContent) = [3, 4] ∧ [3, 4] ≠ [3, 4].filter (· ≤ 3) := by
  decide

/-- non-vacuity of the restore + replay theorem: the node of the S9 example restored from the exact
    snapshot labelled 3, one round of the apply loop: operation 4 is applied, once -/
example : ((NodeF.restored exS9.node 3 ([3, 4].filter (· ≤ 3))).applyN 0 1).fsm = [3, 4] ∧
    ((NodeF.restored exS9.node 3 ([3, 4].filter (· ≤ 3))).applyN 0 1).node.lastApplied = 4 := by decide

/-! ## Cluster level: what an exact snapshot labelled `i` must contain is the same for every
    node and at every time

  On the replication-layer model (7.1) the content of an exact snapshot labelled `i` taken
  by node `a` is the image of its first `i` log entries, `i ≤ commit` (only applied entries
  are captured). Whatever node takes it and whenever, that prefix is the same list: a
  snapshot taken on one node and installed on another, or restored after a restart much
  later, stands for exactly the entries every node applies at positions `1..i`. -/

theorem C10_exact_snapshot_is_node_and_time_independent {cfg : Config} (hnd : cfg.voterIds.Nodup)
    {s s' : Repl.AState} (hr : Repl.Reachable cfg s) (hfrom : Repl.ReachableFrom cfg s s') (a b i : Nat)
    (ha : i ≤ (s.nodes a).commit) (hb : i ≤ (s'.nodes b).commit) :
    (s.nodes a).log.take i = (s'.nodes b).log.take i :=
  Repl.committed_take_eq hnd hr hfrom a b i ha hb

end Raft
