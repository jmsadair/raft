/-
  Properties/C05.lean — linearizable reads are never stale.

  What the serving path guarantees in every node state, after the three `fix:` commits
  (non-voters do not confirm; a round confirms only reads submitted before it was
  started, and never across terms; the read index covers everything earlier leaders
  committed): a linearizable read is served only by a leader that has committed in its
  term, only after a round of requests *created after the read was registered* collected
  a quorum of voter replies of the current term, and only once the applied prefix covers
  the read index. The real-time argument is proved on the timed replication-layer model
  (Proofs/ReplRead.lean, Proofs/ReplReadMono.lean): under the serving guard every commit made
  before the read was registered is inside the answered prefix, and reads that do not overlap
  never go backwards (`C05_linearizable_read`, `C05_reads_never_go_backwards`), with no timing
  assumption. The tie to the code is E4 (walks with reply delays far beyond the election
  timeout, deposed leaders, non-voters).
-/
import RaftVerif.Proofs.LeaderSections
import RaftVerif.Proofs.ReplReadExample
import RaftVerif.Proofs.ReplReadMono
namespace Raft
open Node

/-- **Serving conditions.** Whatever `readOnlyStep` serves was pending, is a lease read or
    a verified one, has its read index applied, and the node is a leader that has
    committed an entry of its own term; a lease read is served only under a valid lease. -/
theorem C05_served_requires (n : Node) (now t : Nat) (h : ReadOut.served t ∈ (n.readOnlyStep now).2) :
    n.role = .leader ∧ n.committedThisTerm = some true ∧
    ∃ r ∈ n.pendingReads, r.tag = t ∧ (r.lease = true ∨ r.verified = true) ∧ r.readIndex ≤ n.lastApplied ∧
      (r.lease = true → n.leaseValid now = true) := by
  unfold readOnlyStep at h
  by_cases hl : n.role ≠ .leader
  · rw [if_pos hl] at h; nomatch h
  rw [if_neg hl] at h
  split at h
  · rename_i hct
    obtain ⟨r, hr, hout⟩ := List.mem_map.mp h
    obtain ⟨hr, hok⟩ := List.mem_filter.mp hr
    simp only [Bool.and_eq_true, Bool.or_eq_true, decide_eq_true_eq] at hok
    split at hout
    · nomatch hout
    · rename_i hc
      cases hout
      exact ⟨Classical.not_not.mp hl, hct, r, hr, rfl, hok.1, hok.2, fun hlease => by simpa [hlease] using hc⟩
  · nomatch h

/-- **A round confirms only the reads submitted before it.** -/
theorem C05_round_confirms_only_older (n : Node) (now seq : Nat) (r : PendingRead) (hr : r ∈ n.pendingReads)
    (hs : seq < r.seq) : r ∈ (n.tryApplyReadOnly now seq).1.pendingReads :=
  List.mem_map.mpr ⟨r, hr, if_neg (Nat.not_le.mpr hs)⟩

/-- Every replication round remembers at most the number of reads submitted so far. Kept by
    `sendAEToPeers` and `registerRead`, so it holds throughout one leadership; `becomeLeader` and
    `becomeFollower` reset `readSeq` and leave `aeRounds`, so it is not an invariant across
    re-elections: rounds of an earlier leadership are of an earlier term and are shut out by
    `C05_other_term_reply_ignored` instead. -/
def RoundsBounded (n : Node) : Prop := ∀ x ∈ n.aeRounds, x.2.2 ≤ n.readSeq

theorem roundsBounded_sendAE (n : Node) (now : Nat) (h : RoundsBounded n) : RoundsBounded (n.sendAEToPeers now).1 := by
  obtain ⟨k, hn, -⟩ := sendAEToPeers_node n now
  unfold RoundsBounded
  rw [hn]
  exact List.forall_mem_cons.mpr ⟨Nat.le_refl _, h⟩

theorem roundsBounded_register (n : Node) (tag : Nat) (lease : Bool) (h : RoundsBounded n) :
    RoundsBounded (n.registerRead tag lease).1 :=
  fun x hx => Nat.le_succ_of_le (h x hx)

/-- **A new read is younger than every round of this leadership in flight** (`RoundsBounded`):
    none of them can confirm it (by `C05_round_confirms_only_older`). -/
theorem C05_new_read_after_all_rounds (n : Node) (tag : Nat) (lease : Bool) (hb : RoundsBounded n) :
    (n.registerRead tag lease).2 ∈ (n.registerRead tag lease).1.pendingReads ∧
    (n.registerRead tag lease).2.verified = false ∧
    ∀ x ∈ n.aeRounds, x.2.2 < (n.registerRead tag lease).2.seq :=
  ⟨List.mem_append_right _ List.mem_cons_self, rfl, fun x hx => Nat.lt_succ_of_le (hb x hx)⟩

/-- **The read index covers what earlier leaders committed**: it is never below the commit
    index, and until the leader has committed in its own term it is the end of its log. -/
theorem C05_read_index (n : Node) (tag : Nat) (lease : Bool) (hw : n.commitIndex ≤ n.log.lastIndex) :
    n.commitIndex ≤ (n.registerRead tag lease).2.readIndex ∧
    (n.committedThisTerm = some false → (n.registerRead tag lease).2.readIndex = n.log.lastIndex) := by
  unfold registerRead
  simp only
  cases hc : n.committedThisTerm with
  | none => exact ⟨Nat.le_refl _, nofun⟩
  | some b => cases b with
    | true => exact ⟨Nat.le_refl _, nofun⟩
    | false => exact ⟨hw, fun _ => rfl⟩

/-- **Replies to requests of another term confirm nothing** (and change nothing). -/
theorem C05_other_term_reply_ignored (n : Node) (now peer round : Nat) (q : AEReq) (r : AEResp) (h : n.term ≠ q.term) :
    (n.onAEReply now peer round q (some r)).1 = n :=
  congrArg (·.1) (onAEReply_ignored now round r (.inr h))

/-- **Non-voters never confirm leadership**: a reply from a non-voting member, of a term not above the
    leader's (a higher one makes it step down), leaves the verified flags of all pending reads and the
    lease untouched. -/
theorem C05_nonvoter_never_confirms (n : Node) (now peer round : Nat) (q : AEReq) (r : AEResp)
    (hv : n.config.isVoter peer = false) (hle : r.term ≤ n.term) :
    (n.onAEReply now peer round q (some r)).1.pendingReads = n.pendingReads ∧
    (n.onAEReply now peer round q (some r)).1.leaseExpiry = n.leaseExpiry := by
  obtain ⟨k, h, hn⟩ := onAEReply_node n now peer round q r hle
  rw [h]
  exact ⟨(hn hv).2.1, (hn hv).2.2.1⟩

/-! Non-vacuity: a leader with one verified and one unverified pending read serves only the verified one. -/
def exLeader : Node :=
  { id := 1, role := .leader, term := 2, commitIndex := 2, lastApplied := 2,
    log := { ents := [⟨1, 1, kConfig, 0, none⟩, ⟨2, 2, kNoop, 0, none⟩] },
    pendingReads := [{ tag := 7, lease := false, readIndex := 2, verified := true, seq := 1 },
                     { tag := 8, lease := false, readIndex := 2, verified := false, seq := 2 }] }
example : (exLeader.readOnlyStep 1000).2 = [.served 7] := by decide

/-- **Linearizable reads are never stale.** On the timed replication-layer model
    (Model/ReplRead.lean: the cluster model of C01 with a logical clock; a leader registers a
    read with the read index the code takes; `CanServe` is the guard under which the code
    answers it: still leader of that term, an entry of its own term committed, read index
    applied, and a quorum — the leader counting itself — has answered replication requests of
    this term that were built after the read was registered): in every reachable state, every
    commit any leader made before the read was registered lies, with exactly its entries,
    inside the prefix the read is answered from. No assumption on timing or clocks. -/
theorem C05_linearizable_read {cfg : Config} (hnd : cfg.voterIds.Nodup) {r : Repl.RState} (hreach : Repl.RReachable cfg r)
    (rd : Repl.Read) (a : Nat) (Q : List Nat) (hs : Repl.CanServe cfg r rd a Q) :
    ∀ e ∈ r.commitAt, e.time < rd.time → e.index ≤ a ∧ e.pre <+: (r.s.nodes rd.leader).log.take a :=
  Repl.linearizable_read hnd hreach rd a Q hs

/-- non-vacuity: a reachable state in which a read registered after a commit can be served -/
example : Repl.RReachable Repl.cfg3 Repl.t10 ∧ Repl.CanServe Repl.cfg3 Repl.t10 Repl.rd8 2 [1, 2] ∧
    ∃ e ∈ Repl.t10.commitAt, e.time < Repl.rd8.time ∧ e.index = 2 :=
  ⟨Repl.t10_reachable, Repl.t10_can_serve, Repl.t10_has_earlier_commit⟩

/-- **Reads that do not overlap in time never go backwards** (the statement's second clause), on
    the same timed model (Proofs/ReplReadMono.lean). A read was answered in the reachable state
    `r1` from the first `a1` entries of its leader's log; `r2` is any later state; a read that was
    registered at or after the moment of the first answer (`r1.now ≤ rd2.time`) and is served in
    `r2` — by whatever leader, of whatever later term, after any crashes and elections in
    between — is answered from a prefix that extends the first answer. No timing assumption. -/
theorem C05_reads_never_go_backwards {cfg : Config} (hnd : cfg.voterIds.Nodup) {r1 r2 : Repl.RState}
    (h1 : Repl.RReachable cfg r1) (h12 : Repl.RReachableFrom cfg r1 r2)
    (rd1 rd2 : Repl.Read) (a1 a2 : Nat) (Q1 Q2 : List Nat)
    (hs1 : Repl.CanServe cfg r1 rd1 a1 Q1) (hs2 : Repl.CanServe cfg r2 rd2 a2 Q2) (hafter : r1.now ≤ rd2.time) :
    a1 ≤ a2 ∧ (r1.s.nodes rd1.leader).log.take a1 <+: (r2.s.nodes rd2.leader).log.take a2 :=
  Repl.reads_never_go_backwards hnd h1 h12 rd1 rd2 a1 a2 Q1 Q2 hs1 hs2 hafter

/-- non-vacuity: the first read served at time 10, a second one registered at 10 and served at 13 -/
example : Repl.RReachable Repl.cfg3 Repl.t10 ∧ Repl.RReachableFrom Repl.cfg3 Repl.t10 Repl.t13 ∧
    Repl.CanServe Repl.cfg3 Repl.t10 Repl.rd8 2 [1, 2] ∧ Repl.CanServe Repl.cfg3 Repl.t13 Repl.rd11 2 [1, 2] ∧
    Repl.t10.now ≤ Repl.rd11.time :=
  ⟨Repl.t10_reachable, Repl.t13_from_t10, Repl.t10_can_serve, Repl.t13_can_serve, by decide⟩

end Raft
