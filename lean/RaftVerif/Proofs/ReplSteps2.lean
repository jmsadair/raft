/-
  Proofs/ReplSteps2.lean — the election steps: timeout; grant = the voter moves to the request's term (`inv_demote`),
  then one more vote (`inv_addVote`), which owes the vote restriction `prefix_of_upToDate`.
-/
import RaftVerif.Proofs.ReplSteps1
namespace Raft
namespace Repl

/-- `votes_unique` with one more vote, by a voter whose votes of that term so far (at most one) are for the same candidate -/
theorem votes_unique_cons {votes : List (Nat × Nat × Nat)} {T m c : Nat}
    (hu : ∀ T m c c', (T, m, c) ∈ votes → (T, m, c') ∈ votes → c = c') (hone : ∀ c', (T, m, c') ∈ votes → c' = c) :
    ∀ T' m' c1 c2, (T', m', c1) ∈ (T, m, c) :: votes → (T', m', c2) ∈ (T, m, c) :: votes → c1 = c2 := by
  intro T' m' c1 c2 h h'
  rcases List.mem_cons.mp h with h | hold <;> rcases List.mem_cons.mp h' with h' | hold'
  · cases h; cases h'; rfl
  · cases h; exact (hone c2 hold').symm
  · cases h'; exact hone c1 hold
  · exact hu T' m' c1 c2 hold hold'

theorem inv_timeout {cfg : Config} {s : AState} (hi : Inv cfg s) (i : Nat) :
    Inv cfg { s with
      nodes := setNode s i { s.nodes i with term := (s.nodes i).term + 1, role := .candidate },
      votes := ((s.nodes i).term + 1, i, i) :: s.votes,
      rvs := ⟨(s.nodes i).term + 1, i, (s.nodes i).log.length, lastTerm (s.nodes i).log⟩ :: s.rvs } := by
  let n' : ANode := { s.nodes i with term := (s.nodes i).term + 1, role := .candidate }
  let s' : AState := { s with nodes := setNode s i n', votes := ((s.nodes i).term + 1, i, i) :: s.votes,
                              rvs := ⟨(s.nodes i).term + 1, i, (s.nodes i).log.length, lastTerm (s.nodes i).log⟩ :: s.rvs }
  show Inv cfg s'
  have hext : Ext s s' := .of_vote rfl rfl rfl
  have hlogs : ∀ j, (s'.nodes j).log = (s.nodes j).log := setNode_rel (R := fun a b => a.log = b.log) rfl fun _ => rfl
  have hcommits : ∀ j, (s'.nodes j).commit = (s.nodes j).commit := setNode_rel (R := fun a b => a.commit = b.commit) rfl fun _ => rfl
  have hterms : ∀ j, (s.nodes j).term ≤ (s'.nodes j).term :=
    setNode_rel (R := fun a b => b.term ≤ a.term) (Nat.le_succ _) fun _ => Nat.le_refl _
  have hother : ∀ j, j ≠ i → s'.nodes j = s.nodes j := fun j h => setNode_other s n' h
  have hself : s'.nodes i = n' := setNode_same s i n'
  have hnew : (s.nodes i).term + 1 ≤ (s'.nodes i).term := Nat.le_of_eq (congrArg ANode.term hself).symm
  -- nothing recorded so far is of the new term of `i`: a node whose term afterwards is a recorded one has not moved
  have hkept : ∀ {j T}, (s'.nodes j).term = T → T ≤ (s.nodes j).term → s'.nodes j = s.nodes j := by
    rintro j _ rfl hle
    refine hother j fun h => ?_
    rw [h, hself] at hle
    exact Nat.not_succ_le_self _ hle
  refine { hi with votes_term := ?_, votes_unique := ?_, rvs_term := ?_, votes_cand := ?_, self_vote := ?_, leader_glog := ?_,
                   glog_votes := ?_, glog_term := ?_, glog_cand := ?_, log_shape := ?_, cand_log := ?_, rvs_cand := ?_,
                   node_lm := ?_, ack_ok := ?_, ack_prefix := ?_, lc := ?_, vote_prefix := ?_, commit_ok := ?_,
                   role_pos := ?_ }
  · exact forall_mem_cons₃ hnew fun T m c hold => Nat.le_trans (hi.votes_term T m c hold) (hterms m)
  · -- the new vote is the only one of its term by `i`
    exact votes_unique_cons hi.votes_unique fun _ h => absurd (hi.votes_term _ _ _ h) (Nat.not_succ_le_self _)
  · exact List.forall_mem_cons.mpr ⟨hnew, fun q hold => Nat.le_trans (hi.rvs_term q hold) (hterms q.cand)⟩
  · exact forall_mem_cons₃ hnew fun T m c hold => Nat.le_trans (hi.votes_cand T m c hold) (hterms c)
  · exact setNode_all (P := fun j a => a.role ≠ .follower → (a.term, j, j) ∈ s'.votes) (fun _ => List.mem_cons_self)
      fun j hj => List.mem_cons_of_mem _ (hi.self_vote j hj)
  · exact setNode_all (P := fun j a => a.role = .leader → s.glog a.term = some (j, a.log)) nofun hi.leader_glog
  · intro T c g h
    obtain ⟨Q, hQ, hv⟩ := hi.glog_votes T c g h
    exact ⟨Q, hQ, fun m hm => List.mem_cons_of_mem _ (hv m hm)⟩
  · exact fun T c g h => Nat.le_trans (hi.glog_term T c g h) (hterms c)
  · intro T c g h ht hcand
    rw [hkept ht (hi.glog_term T c g h)] at hcand ht; exact hi.glog_cand T c g h ht hcand
  · intro j
    rw [hlogs j]
    exact ⟨fun e he => Nat.le_trans ((hi.log_shape j).1 e he) (hterms j), (hi.log_shape j).2⟩
  · exact setNode_all (P := fun _ a => a.role = .candidate → ∀ e ∈ a.log, e.term < a.term)
      (fun _ e he => Nat.lt_succ_of_le ((hi.log_shape i).1 e he)) hi.cand_log
  · refine List.forall_mem_cons.mpr ⟨fun _ _ => ?_, fun q hold hc ht => ?_⟩
    · rw [hlogs]; exact ⟨rfl, rfl⟩
    · have h := hkept ht (hi.rvs_term q hold)
      rw [h] at hc ht ⊢; exact hi.rvs_cand q hold hc ht
  · intro n k h1 hk
    rw [hlogs n] at hk ⊢
    exact hi.node_lm n k h1 hk
  · exact fun m j t h => ⟨Nat.le_trans (hi.ack_ok m j t h).1 (hterms m), (hi.ack_ok m j t h).2⟩
  · intro m j t c g k h hg h1 hk ht
    rw [hlogs m]
    exact (hi.ack_prefix m j t c g k h hg h1 hk ht).imp_right (Dead.mono hi hext)
  · exact fun T c gT t c' g k hT ht hlt h1 hk hterm => (hi.lc T c gT t c' g k hT ht hlt h1 hk hterm).imp_right (Dead.mono hi hext)
  · intro T m c t j c' g k hv hc hT hlt ha hg h1 hk hterm
    rw [hlogs c]
    refine Or.imp_right (Dead.mono hi hext) ?_
    rcases List.mem_cons.mp hv with hv | hold
    · -- the self vote: what the candidate itself acknowledged is in its own log
      cases hv
      exact hi.ack_prefix _ j t c' g k ha hg h1 hk hterm
    · rw [hkept hT (hi.votes_cand T m c hold)] at hc hT
      exact hi.vote_prefix T m c t j c' g k hold hc hT hlt ha hg h1 hk hterm
  · intro n
    obtain ⟨hc1, hc2⟩ := hi.commit_ok n
    rw [hlogs n, hcommits n]
    exact ⟨hc1, hc2.mono hext (hterms n)⟩
  · exact setNode_all (P := fun _ a => a.role ≠ .follower → 1 ≤ a.term) (fun _ => Nat.succ_pos _) hi.role_pos

theorem upToDate.lastTerm_le {q : RVMsg} {l : List AEntry} (h : upToDate q l) : lastTerm l ≤ q.lastTerm :=
  Or.elim h Nat.le_of_lt fun h => Nat.le_of_eq h.1.symm

theorem upToDate.length_le {q : RVMsg} {l : List AEntry} (h : upToDate q l) (ht : q.lastTerm ≤ lastTerm l) : l.length ≤ q.lastIdx :=
  Or.elim h (fun hgt => absurd ht (Nat.not_le_of_lt hgt)) fun h => h.2

/-- The vote restriction. The candidate's log `L` lies on the leader log `gc` of its last term, which holds the position
    (`lc`) or is `g` itself; the position is inside `L`: if that term is `t`, `L` is at least as long as the voter's log;
    if it is later, by sortedness. -/
theorem prefix_of_upToDate {cfg : Config} {s : AState} (hi : Inv cfg s) (m c : Nat) (q : RVMsg)
    (hqi : q.lastIdx = (s.nodes c).log.length) (hqt : q.lastTerm = lastTerm (s.nodes c).log)
    (hup : upToDate q (s.nodes m).log)
    (t c' : Nat) (g : List AEntry) (hg : s.glog t = some (c', g))
    (k : Nat) (h1 : 1 ≤ k) (hkg : k ≤ g.length) (hterm : termAt g k = t)
    (hm : (s.nodes m).log.take k = g.take k) :
    (s.nodes c).log.take k = g.take k ∨ Dead cfg s k t := by
  have hkm : k ≤ (s.nodes m).log.length := length_of_take_eq hm hkg
  have hlm : t ≤ lastTerm (s.nodes m).log :=
    hterm ▸ termAt_of_take_eq hm ▸ termAt_le_of_sorted (hi.log_shape m).2 hkm (Nat.le_refl _)
  have ht1 : 1 ≤ t := hi.glog_pos t c' g hg
  have htc : t ≤ lastTerm (s.nodes c).log := Nat.le_trans hlm (hqt ▸ hup.lastTerm_le)
  have hL : 1 ≤ (s.nodes c).log.length := Nat.pos_of_ne_zero fun h0 => by
    rw [lastTerm, h0, termAt_zero] at htc
    exact Nat.not_succ_le_zero 0 (Nat.le_trans ht1 htc)
  obtain ⟨cc, gc, hgc, _, hpc⟩ := hi.node_lm c (s.nodes c).log.length hL (Nat.le_refl _)
  have hpc' : (s.nodes c).log = gc.take (s.nodes c).log.length := by rw [← hpc, List.take_length]
  refine (hi.lc_le hgc hg htc h1 hkg hterm).imp_left fun h => ?_
  suffices hlen : k ≤ (s.nodes c).log.length by rw [hpc', take_take_le hlen]; exact h
  rcases Nat.eq_or_lt_of_le htc with hEq | hgt
  · exact hqi ▸ Nat.le_trans hkm (hup.length_le (Nat.le_trans (Nat.le_of_eq (hqt.trans hEq.symm)) hlm))
  · exact Nat.le_of_lt (index_lt_of_term_lt (hi.glog_shape _ cc gc hgc).2.1 (length_of_take_eq h hkg)
      (by rw [termAt_of_take_eq h, hterm, ← termAt_of_take_eq hpc]; exact hgt))

set_option linter.unusedVariables false in
theorem uptodate_prefix {cfg : Config} {s : AState} (hi : Inv cfg s) (m c T : Nat) (q : RVMsg)
    (hcand : (s.nodes c).role = .candidate) (hcT : (s.nodes c).term = T)
    (hqi : q.lastIdx = (s.nodes c).log.length) (hqt : q.lastTerm = lastTerm (s.nodes c).log)
    (hup : upToDate q (s.nodes m).log)
    (t c' : Nat) (g : List AEntry) (hg : s.glog t = some (c', g)) (hlt : t < T)
    (k : Nat) (h1 : 1 ≤ k) (hkg : k ≤ g.length) (hterm : termAt g k = t)
    (hm : (s.nodes m).log.take k = g.take k) :
    (s.nodes c).log.take k = g.take k ∨ Dead cfg s k t :=
  prefix_of_upToDate hi m c q hqi hqt hup t c' g hg k h1 hkg hterm hm

theorem inv_addVote {cfg : Config} {s : AState} (hi : Inv cfg s) (T m c : Nat)
    (hm : T ≤ (s.nodes m).term) (hc : T ≤ (s.nodes c).term) (hone : ∀ c', (T, m, c') ∈ s.votes → c' = c)
    (hpre : (s.nodes c).role = .candidate → (s.nodes c).term = T → ∀ t j c' g i, t < T → (m, j, t) ∈ s.acked →
      s.glog t = some (c', g) → 1 ≤ i → i ≤ j → termAt g i = t → (s.nodes c).log.take i = g.take i ∨ Dead cfg s i t) :
    Inv cfg { s with votes := (T, m, c) :: s.votes } := by
  have hext : Ext s { s with votes := (T, m, c) :: s.votes } := .of_vote rfl rfl rfl
  refine { hi with votes_term := ?_, votes_unique := ?_, votes_cand := ?_, self_vote := ?_, glog_votes := ?_,
                   ack_prefix := ?_, lc := ?_, vote_prefix := ?_ }
  · exact forall_mem_cons₃ hm hi.votes_term
  · exact votes_unique_cons hi.votes_unique hone
  · exact forall_mem_cons₃ hc hi.votes_cand
  · exact fun j hj => List.mem_cons_of_mem _ (hi.self_vote j hj)
  · intro T' c' g h
    obtain ⟨Q, hQ, hv⟩ := hi.glog_votes T' c' g h
    exact ⟨Q, hQ, fun v hv' => List.mem_cons_of_mem _ (hv v hv')⟩
  · exact fun v j t c g k h hg h1 hk ht => (hi.ack_prefix v j t c g k h hg h1 hk ht).imp_right (Dead.mono hi hext)
  · exact fun T c gT t c' g k hT ht hlt h1 hk hterm => (hi.lc T c gT t c' g k hT ht hlt h1 hk hterm).imp_right (Dead.mono hi hext)
  · intro T' v c1 t j c' g k hv hcand hT hlt ha hg h1 hk hterm
    refine Or.imp_right (Dead.mono hi hext) ?_
    rcases List.mem_cons.mp hv with hv | hold
    · cases hv; exact hpre hcand hT t j c' g k hlt ha hg h1 hk hterm
    · exact hi.vote_prefix T' v c1 t j c' g k hold hcand hT hlt ha hg h1 hk hterm

/-- the voter's role after `grant`: it keeps its role only if the request is of its own term -/
theorem grant_role {n : ANode} {T : Nat} (hle : n.term ≤ T) :
    (if n.term < T then ARole.follower else n.role) = .follower ∨
    ((if n.term < T then ARole.follower else n.role) = n.role ∧ T = n.term) := by
  by_cases hlt : n.term < T
  · exact .inl (if_pos hlt)
  · exact .inr ⟨if_neg hlt, Nat.le_antisymm (Nat.le_of_not_lt hlt) hle⟩

theorem inv_grant {cfg : Config} {s : AState} (hi : Inv cfg s) (m : Nat) (q : RVMsg)
    (hq : q ∈ s.rvs) (hterm : (s.nodes m).term ≤ q.term)
    (hone : ∀ c, (q.term, m, c) ∈ s.votes → c = q.cand) (hup : upToDate q (s.nodes m).log) :
    Inv cfg { s with
      nodes := setNode s m { s.nodes m with term := q.term,
                                            role := if (s.nodes m).term < q.term then .follower else (s.nodes m).role },
      votes := (q.term, m, q.cand) :: s.votes } := by
  let n' : ANode := { s.nodes m with term := q.term, role := if (s.nodes m).term < q.term then .follower else (s.nodes m).role }
  have hrole : n'.role = .follower ∨ (n'.role = (s.nodes m).role ∧ n'.term = (s.nodes m).term) := grant_role hterm
  have h1 : Inv cfg { s with nodes := setNode s m n' } := inv_demote hi m n' rfl hterm hrole (Nat.le_refl _)
  refine inv_addVote h1 q.term m q.cand (by show q.term ≤ (setNode s m n' m).term; rw [setNode_same]; exact Nat.le_refl _)
    (h1.rvs_term q hq) hone ?_
  intro hcand hcT t j c' g k hlt ha hg hk1 hkj hterm'
  obtain ⟨hqi, hqt⟩ := h1.rvs_cand q hq hcand hcT
  have hup' : upToDate q ((setNode s m n') m).log := by rw [setNode_same]; exact hup
  exact (h1.ack_prefix m j t c' g k ha hg hk1 hkj hterm').elim
    (prefix_of_upToDate h1 m q.cand q hqi hqt hup' t c' g hg k hk1 (Nat.le_trans hkj (h1.ack_le ha hg)) hterm') Or.inr

end Repl
end Raft
