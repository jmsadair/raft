/-
  Proofs/Compaction.lean — a node whose log has been compacted handles AppendEntries like a node
  that holds the full log (C11, third clause).

  `Compacted l l' i t`: `l'` is `l` with everything up to `i` cut away (boundary term `t`). The
  relation is preserved by what the handler does to a log (truncate above the boundary, append),
  reads above the boundary agree (`get?`, `contains`, last index), so the merge loop makes the
  same decisions (`mergeScan_compacted`) and the accepting part has the same effects and the
  same resulting state, with the resulting logs again related (`aeAccept_compacted`).
-/
import RaftVerif.Proofs.AppendEntries
namespace Raft
open Node Log

theorem aeEnter_with3 (n : Node) (l' : Log) (i t now : Nat) (q : AEReq) :
    aeEnter { n with log := l', snapIndex := i, snapTerm := t } now q =
      ({ (aeEnter n now q).1 with log := l', snapIndex := i, snapTerm := t }, (aeEnter n now q).2) := by
  rw [aeEnter_eq, aeEnter_eq]
  simp only []
  split <;> rfl

structure Compacted (l l' : Log) (i t : Nat) : Prop where
  base : l'.base = i
  bterm : l'.baseTerm = t
  ents : l'.ents = l.ents.drop (i - l.base)
  lo : l.base ≤ i
  hi : i ≤ l.base + l.ents.length

theorem compact_compacted {l l' : Log} {i : Nat} (hw : l.WF) (hc : l.compact i = some l') :
    Compacted l l' i l'.baseTerm := by
  obtain ⟨h1, h2, e, _, hge, rfl⟩ := of_compact_eq_some hc
  exact ⟨wf_get?_index hw hge, rfl, rfl, Nat.le_of_lt h1, h2⟩

/-- The boundary as an offset into the entries of `l`: with `i = l.base + d` the truncated subtraction in
    `Compacted.ents` is gone. -/
theorem Compacted.offset {l l' : Log} {i t : Nat} (h : Compacted l l' i t) :
    ∃ d, i = l.base + d ∧ d ≤ l.ents.length ∧ l'.ents = l.ents.drop d := by
  obtain ⟨d, rfl⟩ := Nat.exists_eq_add_of_le h.lo
  exact ⟨d, rfl, Nat.le_of_add_le_add_left h.hi, by rw [h.ents, Nat.add_sub_cancel_left]⟩

/-- The position in the entries of an index `j` above the boundary `b + d`, counted from either base. -/
theorem Compacted.pos_above {b d j : Nat} (hj : b + d < j) : d + (j - (b + d) - 1) = j - b - 1 := by omega

/-- (with the well-formedness of `l'`, which rests on the same computation) -/
theorem Compacted.lastIndex {l l' : Log} {i t : Nat} (h : Compacted l l' i t) (hw : l.WF) : l'.lastIndex = l.lastIndex ∧ l'.WF := by
  obtain ⟨d, rfl, hd, he⟩ := h.offset
  have hwf' : l'.WF := by unfold WF; rw [h.base, he]; exact contig_drop hw d hd
  refine ⟨?_, hwf'⟩
  rw [wf_lastIndex hwf', wf_lastIndex hw, h.base, he, List.length_drop, Nat.add_assoc, Nat.add_sub_of_le hd]

theorem Compacted.contains {l l' : Log} {i t j : Nat} (h : Compacted l l' i t) (hj : i < j) :
    l'.contains j = l.contains j := by
  obtain ⟨d, rfl, hd, he⟩ := h.offset
  rw [Bool.eq_iff_iff, contains_iff, contains_iff, h.base, he, List.length_drop, Nat.add_assoc, Nat.add_sub_of_le hd]
  exact and_congr_left' (iff_of_true hj (Nat.lt_of_le_of_lt (Nat.le_add_right ..) hj))

theorem Compacted.get? {l l' : Log} {i t j : Nat} (h : Compacted l l' i t) (hj : i < j) : l'.get? j = l.get? j := by
  obtain ⟨d, rfl, hd, he⟩ := h.offset
  rw [get?_eq, get?_eq, h.base, he, if_pos hj, if_pos (Nat.lt_of_le_of_lt (Nat.le_add_right ..) hj), List.getElem?_drop,
    pos_above hj]

theorem Compacted.truncate {l l' l1 : Log} {i t j : Nat} (h : Compacted l l' i t) (hj : i < j) (ht : l.truncate j = some l1) :
    ∃ l1', l'.truncate j = some l1' ∧ Compacted l1 l1' i t := by
  obtain ⟨hc, rfl⟩ := of_truncate_eq_some ht
  obtain ⟨d, rfl, hd, he⟩ := h.offset
  refine ⟨_, truncate_eq_some (h.contains hj ▸ hc), h.base, h.bterm, ?_, h.lo, ?_⟩
  · simp only [he, h.base, Nat.add_sub_cancel_left]
    rw [List.take_drop, pos_above hj]
  · exact Nat.add_le_add_left (List.length_take ▸ Nat.le_min.mpr ⟨by omega, hd⟩) _

theorem Compacted.truncate_none {l l' : Log} {i t j : Nat} (h : Compacted l l' i t) (hj : i < j) (ht : l.truncate j = none) :
    l'.truncate j = none := by
  unfold Log.truncate at ht ⊢
  rw [h.contains hj]
  split at ht
  · cases ht
  · exact if_neg ‹_›

theorem Compacted.append {l l' : Log} {i t : Nat} (h : Compacted l l' i t) (es : List Entry) :
    Compacted (l.append es) (l'.append es) i t := by
  obtain ⟨d, rfl, hd, he⟩ := h.offset
  refine ⟨h.base, h.bterm, ?_, h.lo, ?_⟩
  · simp only [Log.append, he, Nat.add_sub_cancel_left]
    rw [List.drop_append_of_le_length hd]
  · simp only [Log.append, List.length_append]
    exact Nat.add_le_add_left (Nat.le_trans hd (Nat.le_add_right ..)) _

theorem mergeScan_compacted : ∀ (es : List Entry) (l l' : Log) (i t : Nat), l.WF → Compacted l l' i t →
    (∀ e ∈ es, i < e.index) →
    match mergeScan l es with
    | .fatal => mergeScan l' es = .fatal
    | .ok l1 tr ta => ∃ l1', mergeScan l' es = .ok l1' tr ta ∧ Compacted l1 l1' i t := by
  intro es
  induction es with
  | nil => exact fun _ l' _ _ _ h _ => ⟨l', rfl, h⟩
  | cons e es ih =>
    intro l l' i t hw h hall
    obtain ⟨hei, hes⟩ := List.forall_mem_cons.mp hall
    have ih := ih l l' i t hw h hes
    -- the loop reads the last index and the entry at `e.index`, which agree, and truncates at `e.index`
    unfold mergeScan
    rw [(h.lastIndex hw).1, h.get? hei]
    by_cases h1 : l.lastIndex < e.index
    · rw [if_pos h1, if_pos h1]; exact ⟨l', rfl, h⟩
    rw [if_neg h1, if_neg h1]
    cases l.get? e.index with
    | none => rfl
    | some ex =>
      dsimp only
      by_cases hcf : (!isConflict ex e) = true
      · rw [if_pos hcf, if_pos hcf]; exact ih
      rw [if_neg hcf, if_neg hcf]
      cases htr : l.truncate e.index with
      | none => rw [h.truncate_none hei htr]
      | some l1 =>
        obtain ⟨l1', h1', hc1⟩ := h.truncate hei htr
        rw [h1']; exact ⟨l1', rfl, hc1⟩

theorem aeAccept_compacted (n : Node) (l' : Log) (i t now : Nat) (q : AEReq) (hw : n.log.WF)
    (hc : Compacted n.log l' i t) (hall : ∀ e ∈ q.entries, i < e.index) :
    ∃ L', aeAccept { n with log := l', snapIndex := i, snapTerm := t } now q =
        ({ (aeAccept n now q).1 with log := L', snapIndex := i, snapTerm := t }, (aeAccept n now q).2) ∧
      Compacted (aeAccept n now q).1.log L' i t := by
  have hm := mergeScan_compacted q.entries n.log l' i t hw hc hall
  cases hms : mergeScan n.log q.entries with
  | fatal =>
    rw [hms] at hm
    rw [aeAccept_of_fatal now hms, aeAccept_of_fatal (n := { n with log := l', snapIndex := i, snapTerm := t }) now hm]
    exact ⟨l', rfl, hc⟩
  | ok l1 tr ta =>
    rw [hms] at hm
    obtain ⟨l1', hm', hc1⟩ := hm
    refine ⟨l1'.append ta, ?_, ?_⟩
    · -- both sides in closed form; `nextConfiguration` does not see the log or the boundary
      rw [aeAccept_of_merge now hms, aeAccept_of_merge (n := { n with log := l', snapIndex := i, snapTerm := t }) now hm']
      simp only [nextConfiguration_with3 n l' i t now n.committed]
      by_cases hf : tr.any (· ≤ n.config.index) = true
      · simp only [if_pos hf]
      · simp only [if_neg hf]
    · rw [aeAccept_of_merge now hms]; exact hc1.append ta

end Raft
