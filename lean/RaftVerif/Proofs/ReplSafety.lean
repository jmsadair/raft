/-
  Proofs/ReplSafety.lean — the invariant holds in every reachable state of the replication
  layer, and what follows from it: log matching, leader completeness, state machine safety.
  Before them, what a step does besides keeping the invariant: it extends the ghost history and never lowers a term
  (`step_ext`, `step_term_mono`: what stability of committed prefixes rests on) and, for the timed models, what it
  leaves of a node that is leader afterwards (`step_leader`).
-/
import RaftVerif.Proofs.ReplSteps2
import RaftVerif.Proofs.ReplSteps3
import RaftVerif.Proofs.ReplSteps4
namespace Raft
namespace Repl

theorem inv_step {cfg : Config} (hnd : cfg.voterIds.Nodup) {s s' : AState} (hi : Inv cfg s) (h : Step cfg s s') : Inv cfg s' := by
  cases h with
  | timeout i => exact inv_timeout hi i
  | grant m q hq ht hone hup => exact inv_grant hi m q hq ht hone hup
  | becomeLeader c Q hc hQ hv => exact inv_becomeLeader hnd hi c Q hc hQ hv
  | clientAppend l p hl => exact inv_clientAppend hnd hi l p hl
  | sendAE l prev k stamp hl hp => exact inv_sendAE hi l prev k stamp hl hp
  | recvAEok n m hm ht hr hp hpt => exact inv_recvAEok hnd hi n m hm ht hp hpt
  | recvAErej n m hm ht hr => exact inv_demote hi n _ rfl ht (Or.inl rfl) (Nat.le_refl _)
  | advanceCommit l i Q hl hil hti hQ ha => exact inv_advanceCommit hi l i Q hl hil hti hQ ha
  | higherTerm n t h => exact inv_demote hi n _ rfl (Nat.le_of_lt h) (Or.inl rfl) (Nat.le_refl _)
  | crash n => exact inv_demote hi n _ rfl (Nat.le_refl _) (Or.inl rfl) (Nat.zero_le _)

theorem inv_reachable {cfg : Config} (hnd : cfg.voterIds.Nodup) {s : AState} (h : Reachable cfg s) : Inv cfg s := by
  induction h with
  | base => exact inv_init cfg
  | step _ hs ih => exact inv_step hnd ih hs

theorem step_ext {cfg : Config} (hnd : cfg.voterIds.Nodup) {s s' : AState} (hi : Inv cfg s) (h : Step cfg s s') : Ext s s' := by
  cases h with
  | timeout | grant => exact .of_vote rfl rfl rfl
  | becomeLeader c Q hc hQ hv =>
    exact .of_ack rfl rfl (Nat.le_refl _)
      (glog_update_ext (.inl (glog_none_of_candidate hnd hi c Q hc hQ hv)) (List.prefix_append _ _))
  | clientAppend l p hl =>
    exact .of_ack rfl rfl (Nat.le_refl _) (glog_update_ext (.inr (hi.leader_glog l hl)) (List.prefix_append _ _))
  | recvAEok n m hm ht hr hp hpt => exact .of_ack rfl rfl ht fun t c g h => ⟨g, h, List.prefix_refl g⟩
  | sendAE | recvAErej | advanceCommit | higherTerm | crash => exact Ext.refl_of _ _ rfl rfl rfl

inductive ReachableFrom (cfg : Config) (s : AState) : AState → Prop
  | base : ReachableFrom cfg s s
  | step {a b} : ReachableFrom cfg s a → Step cfg a b → ReachableFrom cfg s b

theorem ReachableFrom.trans {cfg : Config} {a b c : AState} (h1 : ReachableFrom cfg a b) (h2 : ReachableFrom cfg b c) :
    ReachableFrom cfg a c := by
  induction h2 with
  | base => exact h1
  | step _ hs ih => exact ReachableFrom.step ih hs

theorem ReachableFrom.one {cfg : Config} {a b : AState} (h : Step cfg a b) : ReachableFrom cfg a b :=
  ReachableFrom.step ReachableFrom.base h

theorem ReachableFrom.head {cfg : Config} {a b c : AState} (h : Step cfg a b) (h' : ReachableFrom cfg b c) :
    ReachableFrom cfg a c := (ReachableFrom.one h).trans h'

theorem reachable_trans {cfg : Config} {s s' : AState} (h : Reachable cfg s) (h' : ReachableFrom cfg s s') : Reachable cfg s' := by
  induction h' with
  | base => exact h
  | step _ hs ih => exact Reachable.step ih hs

/-- `hterm`: `Ext.newack` of the second half speaks of the terms in `b`, the conclusion of those in `a`. -/
theorem ext_trans {a b c : AState} (h1 : Ext a b) (h2 : Ext b c) (hterm : ∀ m, (a.nodes m).term ≤ (b.nodes m).term) : Ext a c := by
  refine ⟨fun x h => h2.votes x (h1.votes x h), fun x h => h2.acked x (h1.acked x h), ?_, ?_⟩
  · intro t c' g h
    obtain ⟨g1, hg1, hp1⟩ := h1.glog t c' g h
    obtain ⟨g2, hg2, hp2⟩ := h2.glog t c' g1 hg1
    exact ⟨g2, hg2, hp1.trans hp2⟩
  · intro m j t h
    rcases h2.newack m j t h with h | h
    · exact h1.newack m j t h
    · exact Or.inr (Nat.le_trans (hterm m) h)

theorem step_term_mono {cfg : Config} {s s' : AState} (h : Step cfg s s') (j : Nat) : (s.nodes j).term ≤ (s'.nodes j).term := by
  have set : ∀ {i n'}, (s.nodes i).term ≤ n'.term → (s.nodes j).term ≤ (setNode s i n' j).term :=
    fun h => setNode_rel (R := fun a b => b.term ≤ a.term) h (fun _ => Nat.le_refl _) j
  cases h with
  | sendAE => exact Nat.le_refl _
  | timeout i => exact set (Nat.le_succ _)
  | higherTerm n t h => exact set (Nat.le_of_lt h)
  | grant m q _ ht | recvAEok m q _ ht | recvAErej m q _ ht => exact set ht
  | _ => exact set (Nat.le_refl _)

/-- What a step does to a node that leads afterwards (`n'`; `n` before): it led the same term before, its
    log has only grown and its commit index has not gone back; or it has just been elected. -/
def LeaderKept (s : AState) (n' n : ANode) : Prop :=
  n'.role = .leader →
    (n.role = .leader ∧ n'.term = n.term ∧ n.log <+: n'.log ∧ n.commit ≤ n'.commit) ∨ s.glog n'.term = none

theorem LeaderKept.refl (s : AState) (n : ANode) : LeaderKept s n n :=
  fun hl => .inl ⟨hl, rfl, List.prefix_refl _, Nat.le_refl _⟩

theorem step_leader {cfg : Config} (hnd : cfg.voterIds.Nodup) {s s' : AState} (hi : Inv cfg s) (h : Step cfg s s') (j : Nat) :
    LeaderKept s (s'.nodes j) (s.nodes j) := by
  have set : ∀ {i n'}, LeaderKept s n' (s.nodes i) → LeaderKept s (setNode s i n' j) (s.nodes j) :=
    fun h => setNode_rel h (.refl s) j
  cases h with
  | sendAE => exact .refl _ _
  | becomeLeader c Q hc hQ hv => exact set fun _ => .inr (glog_none_of_candidate hnd hi c Q hc hQ hv)
  | clientAppend l p hl => exact set fun hl => .inl ⟨hl, rfl, List.prefix_append _ _, Nat.le_refl _⟩
  | advanceCommit l i => exact set fun hl => .inl ⟨hl, rfl, List.prefix_refl _, Nat.le_max_left _ _⟩
  | grant m q _ ht =>
    refine set fun hl => ?_
    rcases grant_role ht with h | ⟨h1, h2⟩
    · cases h.symm.trans hl
    · exact .inl ⟨h1.symm.trans hl, h2, List.prefix_refl _, Nat.le_refl _⟩
  | _ => exact set nofun

theorem reachableFrom_ext {cfg : Config} (hnd : cfg.voterIds.Nodup) {s s' : AState} (hr : Reachable cfg s)
    (h : ReachableFrom cfg s s') : Ext s s' ∧ ∀ m, (s.nodes m).term ≤ (s'.nodes m).term := by
  induction h with
  | base => exact ⟨Ext.refl_of _ _ rfl rfl rfl, fun _ => Nat.le_refl _⟩
  | step hab hs ih =>
    exact ⟨ext_trans ih.1 (step_ext hnd (inv_reachable hnd (reachable_trans hr hab)) hs) ih.2,
      fun m => Nat.le_trans (ih.2 m) (step_term_mono hs m)⟩

theorem committed_stable {cfg : Config} (hnd : cfg.voterIds.Nodup) {s s' : AState} (hr : Reachable cfg s) (h : ReachableFrom cfg s s')
    {b : Nat} {P : List AEntry} (hc : IsCommitted cfg s b P) : IsCommitted cfg s' b P :=
  hc.mono (reachableFrom_ext hnd hr h).1 (Nat.le_refl _)

theorem log_matching {cfg : Config} (hnd : cfg.voterIds.Nodup) {s : AState} (hr : Reachable cfg s) (a b i : Nat)
    (h1 : 1 ≤ i) (ha : i ≤ (s.nodes a).log.length) (hb : i ≤ (s.nodes b).log.length)
    (ht : termAt (s.nodes a).log i = termAt (s.nodes b).log i) :
    (s.nodes a).log.take i = (s.nodes b).log.take i :=
  (inv_reachable hnd hr).log_matching a b i h1 ha hb ht

theorem leader_completeness {cfg : Config} (hnd : cfg.voterIds.Nodup) {s : AState} (hr : Reachable cfg s)
    (t c : Nat) (g : List AEntry) (i : Nat) (hg : s.glog t = some (c, g)) (h1 : 1 ≤ i) (hig : i ≤ g.length)
    (hti : termAt g i = t) (hq : QuorumAcked cfg s i t)
    (T c' : Nat) (gT : List AEntry) (hT : s.glog T = some (c', gT)) (hlt : t < T) :
    gT.take i = g.take i :=
  ((inv_reachable hnd hr).lc T c' gT t c g i hT hg hlt h1 hig hti).resolve_right (not_dead_of_quorumAcked hnd hq)

/-- both are prefixes of the leader log of the later witness -/
theorem committed_comparable {cfg : Config} (hnd : cfg.voterIds.Nodup) {s : AState} (hr : Reachable cfg s)
    {b1 b2 : Nat} {P1 P2 : List AEntry} (h1 : IsCommitted cfg s b1 P1) (h2 : IsCommitted cfg s b2 P2) :
    P1 <+: P2 ∨ P2 <+: P1 := by
  have hi := inv_reachable hnd hr
  rcases h1 with rfl | ⟨i1, t1, c1, g1, _, hg1, h11, hi1, ht1, hq1, hp1⟩
  · exact Or.inl List.nil_prefix
  rcases h2 with rfl | ⟨i2, t2, c2, g2, _, hg2, h12, hi2, ht2, hq2, hp2⟩
  · exact Or.inr List.nil_prefix
  have w1 : IsCommitted cfg s t1 P1 := Or.inr ⟨i1, t1, c1, g1, Nat.le_refl _, hg1, h11, hi1, ht1, hq1, hp1⟩
  have w2 : IsCommitted cfg s t2 P2 := Or.inr ⟨i2, t2, c2, g2, Nat.le_refl _, hg2, h12, hi2, ht2, hq2, hp2⟩
  rcases Nat.le_total t1 t2 with hle | hle
  · exact List.prefix_or_prefix_of_prefix (w1.prefix_glog hnd hi hg2 hle) (w2.prefix_glog hnd hi hg2 (Nat.le_refl _))
  · exact List.prefix_or_prefix_of_prefix (w1.prefix_glog hnd hi hg1 (Nat.le_refl _)) (w2.prefix_glog hnd hi hg1 hle)

/-- **State machine safety**: a node applies its log in order up to its commit index, so no two state machines,
    in one state or across time, ever see different operations at the same position. -/
theorem state_machine_safety {cfg : Config} (hnd : cfg.voterIds.Nodup) {s s' : AState} (hr : Reachable cfg s)
    (hfrom : ReachableFrom cfg s s') (a b : Nat) :
    (s.nodes a).log.take (s.nodes a).commit <+: (s'.nodes b).log.take (s'.nodes b).commit ∨
    (s'.nodes b).log.take (s'.nodes b).commit <+: (s.nodes a).log.take (s.nodes a).commit :=
  have hr' := reachable_trans hr hfrom
  committed_comparable hnd hr' (committed_stable hnd hr hfrom ((inv_reachable hnd hr).commit_ok a).2)
    ((inv_reachable hnd hr').commit_ok b).2

/-- … hence equal up to any index both have committed. -/
theorem committed_take_eq {cfg : Config} (hnd : cfg.voterIds.Nodup) {s s' : AState}
    (hr : Reachable cfg s) (hfrom : ReachableFrom cfg s s') (a b i : Nat)
    (ha : i ≤ (s.nodes a).commit) (hb : i ≤ (s'.nodes b).commit) :
    (s.nodes a).log.take i = (s'.nodes b).log.take i := by
  have hca := ((inv_reachable hnd hr).commit_ok a).1
  have hcb := ((inv_reachable hnd (reachable_trans hr hfrom)).commit_ok b).1
  rw [← take_take_le (l := (s.nodes a).log) ha, ← take_take_le (l := (s'.nodes b).log) hb]
  rcases state_machine_safety hnd hr hfrom a b with h | h
  · exact (take_prefix_stable h (i := i) (by rw [List.length_take_of_le hca]; exact ha)).symm
  · exact take_prefix_stable h (i := i) (by rw [List.length_take_of_le hcb]; exact hb)

/-- **What a node has applied is never rewritten** (no truncation at or below the commit index, crashes included). -/
theorem applied_prefix_stable {cfg : Config} (hnd : cfg.voterIds.Nodup) {s s' : AState} (hr : Reachable cfg s)
    (hfrom : ReachableFrom cfg s s') (n : Nat) (hmono : (s.nodes n).commit ≤ (s'.nodes n).commit) :
    (s'.nodes n).log.take (s.nodes n).commit = (s.nodes n).log.take (s.nodes n).commit :=
  (committed_take_eq hnd hr hfrom n n _ (Nat.le_refl _) hmono).symm

/-- **A committed prefix is never lost** (C04 durability, C07 completeness). -/
theorem committed_in_later_leaders {cfg : Config} (hnd : cfg.voterIds.Nodup) {s : AState} (hr : Reachable cfg s)
    (a : Nat) (T c : Nat) (gT : List AEntry) (hT : s.glog T = some (c, gT)) (hlt : (s.nodes a).term < T) :
    (s.nodes a).log.take (s.nodes a).commit <+: gT :=
  have hi := inv_reachable hnd hr
  (hi.commit_ok a).2.prefix_glog hnd hi hT (Nat.le_of_lt hlt)

/-- one leader log per term, hence one leader per term -/
theorem one_leader_per_term {cfg : Config} (hnd : cfg.voterIds.Nodup) {s : AState} (hr : Reachable cfg s) (a b : Nat)
    (ha : (s.nodes a).role = .leader) (hb : (s.nodes b).role = .leader) (ht : (s.nodes a).term = (s.nodes b).term) : a = b := by
  have hi := inv_reachable hnd hr
  cases (ht ▸ hi.leader_glog a ha).symm.trans (hi.leader_glog b hb)
  rfl

end Repl
end Raft
