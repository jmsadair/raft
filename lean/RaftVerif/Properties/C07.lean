/-
  Properties/C07.lean — leader completeness.

  Node level, for every node state: the vote restriction (a vote, real or pre-, is only
  granted to a candidate whose (last term, last index) is lexicographically at least the
  voter's — C08_vote_up_to_date, restated), a new leader keeps its whole log and appends
  one no-op of its term, and no leader section ever truncates. Cluster level, on the
  replication-layer model (Proofs/ReplSafety.lean): what a quorum acknowledged in a term is
  in the log of the leader of every later term (`C07_leader_completeness`,
  `C07_committed_in_later_leaders`). The tie to the code is E4: at the moment a node is first
  seen leading a term its log is compared with everything applied anywhere.
-/
import RaftVerif.Proofs.LeaderSpecs
import RaftVerif.Proofs.ReplSafety
import RaftVerif.Proofs.RequestVote
namespace Raft
open Node

/-- **Vote restriction**, both for real votes and prevotes: neither "longer log only"
    nor "higher last term only" suffices. -/
theorem C07_vote_restriction {n n' : Node} {now : Nat} {q : RVReq} {r : RVResp} {eff : List Effect}
    (h : requestVote n now q = some (n', r, eff)) (hg : r.granted = true) :
    n.log.lastTerm < q.lastTerm ∨ (n.log.lastTerm = q.lastTerm ∧ n.log.lastIndex ≤ q.lastIndex) :=
  requestVote_upToDate h hg

set_option linter.unusedVariables false in
/-- **A new leader keeps every entry it holds** (what it adds, one no-op of its term at the end, is
    `becomeLeader_node`). Well-formedness (`hw`) is not needed. -/
theorem C07_new_leader_keeps_log (n : Node) (now i : Nat) (e : Entry) (hw : n.log.WF) (h : n.log.get? i = some e) :
    (n.becomeLeader now).1.log.get? i = some e := by
  obtain ⟨k, hl, -⟩ := becomeLeader_node n now
  rw [hl]
  exact (Log.get?_append_left (Log.get?_eq_some_iff.mp h).1).trans h

/-- **Leaders never overwrite**: the sections a leader runs on its own log (becoming
    leader, client submission, commit) emit no truncation. -/
theorem C07_leader_never_truncates (n : Node) (now data i : Nat) :
    Effect.logTruncate i ∉ (n.becomeLeader now).2 ∧ Effect.logTruncate i ∉ (n.submitReplicated now data).2.1 ∧
    Effect.logTruncate i ∉ (n.commitStep now).2 := by
  refine ⟨fun h => ?_, fun h => ?_, fun h => ?_⟩
  · rcases mem_becomeLeader h with h | ⟨_, h⟩ | h <;> nomatch h
  · rcases mem_submitReplicated h with ⟨_, h⟩ | h <;> nomatch h
  · rcases mem_commitStep h with h | h <;> nomatch h

/-- **Leader completeness.** In every reachable state of the replication-layer model: a
    position `(i, t)` of the leader log of term `t` that a quorum acknowledged in term `t` is
    in the log of the leader of every later term `T`, together with everything before it. -/
theorem C07_leader_completeness {cfg : Config} (hnd : cfg.voterIds.Nodup) {s : Repl.AState} (hr : Repl.Reachable cfg s)
    (t c : Nat) (g : List Repl.AEntry) (i : Nat) (hg : s.glog t = some (c, g)) (h1 : 1 ≤ i) (hig : i ≤ g.length)
    (hti : Repl.termAt g i = t) (hq : Repl.QuorumAcked cfg s i t)
    (T c' : Nat) (gT : List Repl.AEntry) (hT : s.glog T = some (c', gT)) (hlt : t < T) :
    gT.take i = g.take i :=
  Repl.leader_completeness hnd hr t c g i hg h1 hig hti hq T c' gT hT hlt

/-- every node's committed prefix is a prefix of the log of every leader of a later term -/
theorem C07_committed_in_later_leaders {cfg : Config} (hnd : cfg.voterIds.Nodup) {s : Repl.AState} (hr : Repl.Reachable cfg s)
    (a : Nat) (T c : Nat) (gT : List Repl.AEntry) (hT : s.glog T = some (c, gT)) (hlt : (s.nodes a).term < T) :
    (s.nodes a).log.take (s.nodes a).commit <+: gT :=
  Repl.committed_in_later_leaders hnd hr a T c gT hT hlt

end Raft
