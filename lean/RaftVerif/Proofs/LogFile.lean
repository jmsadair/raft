/-
  Proofs/LogFile.lean — what `Replay` reads back from a log file that ends in a torn record,
  parametric in the record body codec; and what the write loop (`writeSeq`) leaves unchanged.
-/
import RaftVerif.Model.LogFile
import RaftVerif.Proofs.Codec
namespace Raft.LogFile
open Raft.Bytes Raft.Codec

variable {α : Type}

/-- A record body codec: decoding inverts encoding, and bodies fit the model's 32-bit length prefix
    (the code writes an int32, which halves the bound). -/
structure BodyCodec (α : Type) where
  enc : α → Bytes
  dec : Bytes → Option α
  ok : α → Prop
  dec_enc : ∀ a, ok a → dec (enc a) = some a
  small : ∀ a, ok a → (enc a).length < 2 ^ 32

def frames (c : BodyCodec α) (es : List α) : Bytes := (es.map (fun e => frame (c.enc e))).flatten

@[simp] theorem frames_nil (c : BodyCodec α) : frames c [] = [] := rfl
@[simp] theorem frames_cons (c : BodyCodec α) (e : α) (es : List α) :
    frames c (e :: es) = frame (c.enc e) ++ frames c es := rfl
theorem frames_append (c : BodyCodec α) (xs ys : List α) : frames c (xs ++ ys) = frames c xs ++ frames c ys := by
  simp [frames]

theorem be32_length (n : Nat) : (be32 n).length = 4 := rfl

theorem frame_length (b : Bytes) : (frame b).length = 4 + b.length := by
  rw [frame, List.length_append, be32_length]

/-- Lift the result of scanning a suffix over the complete records in front of it. -/
def Scan.prepend (es : List α) : Scan α → Scan α
  | .ok es' g => .ok (es ++ es') g
  | .corrupt => .corrupt

theorem scan_frames (c : BodyCodec α) (es : List α) (k pos : Nat) (tail : Bytes) (hok : ∀ e ∈ es, c.ok e) :
    scan c.dec (es.length + k) pos (frames c es ++ tail) =
      Scan.prepend es (scan c.dec k (pos + (frames c es).length) tail) := by
  induction es generalizing pos with
  | nil =>
    simp only [List.length_nil, Nat.zero_add, frames_nil, List.nil_append, Nat.add_zero]
    cases scan c.dec k pos tail <;> rfl
  | cons e es ih =>
    obtain ⟨he, hes⟩ := List.forall_mem_cons.mp hok
    rw [List.length_cons, Nat.add_right_comm, scan, frames_cons, List.length_append, frame_length, frame,
      List.append_assoc, List.append_assoc, readBe32_be32 _ _ (c.small e he)]
    simp only [List.length_append, Nat.not_lt.mpr (Nat.le_add_right _ _), if_false, List.take_left, List.drop_left,
      c.dec_enc e he, ih _ hes]
    simp only [Nat.add_assoc]
    cases scan c.dec k _ tail <;> rfl

theorem readBe32_short {p : Bytes} (h : p.length < 4) : readBe32 p = none := by
  unfold readBe32
  split
  · simp at h; omega
  · rfl

/-- A strict prefix of one record is a torn tail: the scan stops in front of it. -/
theorem scan_torn (c : BodyCodec α) (e : α) (he : c.ok e) (p : Bytes) (hp : p <+: frame (c.enc e))
    (hlt : p.length < (frame (c.enc e)).length) (k pos : Nat) : scan c.dec (k + 1) pos p = .ok [] pos := by
  rw [scan]
  by_cases h4 : p.length < 4
  · rw [readBe32_short h4]
  · -- the header is complete, the body is not
    obtain ⟨q, rfl⟩ := List.prefix_of_prefix_length_le (List.prefix_append _ _) hp (by rw [be32_length]; omega)
    rw [frame_length, List.length_append, be32_length] at hlt
    rw [readBe32_be32 _ _ (c.small e he)]
    exact if_pos (by omega)

/-- Any byte prefix of a sequence of records is some complete records followed by a
    strict prefix of the next one (or nothing). -/
theorem prefix_of_frames (c : BodyCodec α) (es : List α) (p : Bytes) (hp : p <+: frames c es) :
    ∃ j, j ≤ es.length ∧ ∃ p', p = frames c (es.take j) ++ p' ∧
      (p' = [] ∨ ∃ e, es[j]? = some e ∧ p' <+: frame (c.enc e) ∧ p'.length < (frame (c.enc e)).length) := by
  induction es generalizing p with
  | nil => exact ⟨0, Nat.le_refl _, [], by simpa using hp, .inl rfl⟩
  | cons e es ih =>
    rw [frames_cons] at hp
    by_cases hlt : p.length < (frame (c.enc e)).length
    · exact ⟨0, Nat.zero_le _, p, rfl, .inr ⟨e, rfl,
        List.prefix_of_prefix_length_le hp (List.prefix_append _ _) (Nat.le_of_lt hlt), hlt⟩⟩
    · obtain ⟨q, rfl⟩ := List.prefix_of_prefix_length_le (List.prefix_append _ _) hp (Nat.le_of_not_lt hlt)
      obtain ⟨j, hj, p', rfl, hcase⟩ := ih q ((List.prefix_append_right_inj _).mp hp)
      exact ⟨j + 1, Nat.succ_le_succ hj, p', by simp, hcase⟩

theorem forall_mem_append_take {P : α → Prop} {old es : List α} (hold : ∀ e ∈ old, P e) (hes : ∀ e ∈ es, P e) (j : Nat) :
    ∀ e ∈ old ++ es.take j, P e :=
  fun e he => (List.mem_append.mp he).elim (hold e) fun h => hes e (List.mem_of_mem_take h)

theorem replay_frames_append (c : BodyCodec α) (es : List α) (h : ∀ e ∈ es, c.ok e) (p : Bytes)
    (hp : ∀ k pos, scan c.dec (k + 1) pos p = .ok [] pos) :
    replay c.dec (frames c es ++ p) = .ok es (frames c es).length := by
  -- fuel: a record is at least one byte, so the file's length covers the records, and one is left for the tail
  obtain ⟨k, hk⟩ := Nat.exists_eq_add_of_le (Nat.le_trans
    (length_le_flatten_map (fun e => frame (c.enc e)) (fun e => List.ne_nil_of_length_pos (by rw [frame_length]; omega)) es)
    (by simp : (frames c es).length ≤ (frames c es ++ p).length))
  rw [replay, hk, Nat.add_assoc, scan_frames c _ (k + 1) 0 p h, Nat.zero_add, hp]
  simp [Scan.prepend]

theorem replay_frames (c : BodyCodec α) (es : List α) (h : ∀ e ∈ es, c.ok e) :
    replay c.dec (frames c es) = .ok es (frames c es).length := by
  simpa using replay_frames_append c es h [] fun _ _ => rfl

/-- **Recovery after a crash inside an append.** The file held the records `old`; an
    append of `es` was cut at an arbitrary byte. `Replay` succeeds, returns `old` followed
    by a prefix of `es`, and the end of the last complete record it reports is exactly the
    length of those records — so truncating there restores a file of complete records. -/
theorem replay_torn_append (c : BodyCodec α) (old es : List α) (hold : ∀ e ∈ old, c.ok e) (hes : ∀ e ∈ es, c.ok e)
    (p : Bytes) (hp : p <+: frames c es) :
    ∃ j, j ≤ es.length ∧
      replay c.dec (frames c old ++ p) = .ok (old ++ es.take j) (frames c (old ++ es.take j)).length ∧
      (frames c old ++ p).take (frames c (old ++ es.take j)).length = frames c (old ++ es.take j) := by
  obtain ⟨j, hj, p', rfl, hcase⟩ := prefix_of_frames c es p hp
  refine ⟨j, hj, ?_, ?_⟩ <;> rw [← List.append_assoc, ← frames_append]
  · refine replay_frames_append c _ (forall_mem_append_take hold hes j) p' fun k pos => ?_
    rcases hcase with rfl | ⟨e, he, h1, h2⟩
    · rfl
    · exact scan_torn c e (hes e (List.mem_of_getElem? he)) p' h1 h2 k pos
  · simp

/-- The write loop changes nothing but the offsets. -/
theorem writeSeq_same (file : Bytes) (es : List SEntry) :
    (writeSeq file es).2.map (fun e => { e with offset := 0 }) = es.map (fun e => { e with offset := 0 }) := by
  induction es generalizing file with
  | nil => rfl
  | cons e es ih => simp only [writeSeq, List.map_cons]; rw [ih]

theorem writeSeq_length (file : Bytes) (es : List SEntry) : (writeSeq file es).2.length = es.length := by
  simpa using congrArg List.length (writeSeq_same file es)

end Raft.LogFile
